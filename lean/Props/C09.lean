import Proofs.RestartAvg
/-
  C09 — Restart independence.
  The only consensus input the daemon keeps in memory is the rolling-average cache. The full
  statement (DESIGN §7: `restart_independent`) is FALSE for the code as it is: the incremental path trims
  by COUNT, the reload path by HEIGHT WINDOW; the witness below is replayed on the real daemon
  by the `restart` scenario. What does hold is stated as the `_partial` and `_whole_windows` theorems.
-/
namespace Pegnet.C09
open Pegnet

/-- a freshly started process computes the averages as a function of the database alone -/
theorem reload_is_function_of_db (P : Params) (db : DB) (c₁ c₂ : AvgCache) (h : Nat)
    (h₁ : c₁.height + 1 < h ∨ c₁.height > h) (h₂ : c₂.height + 1 < h ∨ c₂.height > h)
    (hd : c₁.data.map (·.1) = c₂.data.map (·.1)) :
    (getAverages P db c₁ h).2 = (getAverages P db c₂ h).2 := by
  -- both reload the height window of `h`, starting from the emptied series of the same tickers
  have e : c₁.data.map (fun p => (p.1, ([] : List Nat))) = c₂.data.map (fun p => (p.1, ([] : List Nat))) := by
    have := congrArg (List.map (fun t => (t, ([] : List Nat)))) hd
    rw [List.map_map, List.map_map] at this
    exact this
  have far : ∀ k : Nat, k + 1 < h ∨ k > h → k ≠ h ∧ ¬ k + 1 = h := fun k hk => by omega
  rw [getAverages_miss (far _ h₁).1, getAverages_miss (far _ h₂).1]
  unfold nextData
  rw [if_neg (far _ h₁).2, if_neg (far _ h₂).2, e]

/-- asking twice for the same height returns the cached answer and leaves the cache alone -/
theorem cache_hit (P : Params) (db : DB) (c : AvgCache) :
    getAverages P db c c.height = (c, c.avgs) :=
  getAverages_hit rfl

/-- everything else a block needs is read from the database: restarting (dropping the cache)
    changes nothing of the committed state -/
theorem restart_keeps_database (P : Params) (n : Node) :
    (restart P n).db.addrs = n.db.addrs ∧ (restart P n).db.rates = n.db.rates ∧ (restart P n).db.holding = n.db.holding ∧
    (restart P n).db.rels = n.db.rels ∧ (restart P n).db.synced = n.db.synced :=
  ⟨rfl, rfl, rfl, rfl, rfl⟩

/-! ### the witness (period 8, rates at heights 1..20 except 10, one asset) -/
def wP : Params :=
  { act := ⟨0,0,0,0,0,0,0,0,0,0,0,0,0,0,0,0,0⟩, tickerMax := 63, tickerNames := ["PEG", "pUSD"], oneWaySet := [],
    snapshotRate := 144, perBlockHolders := 0, perBlockDevs := 0, bankBase := 0, avgPeriod := 8, avgRequired := 4,
    syncVersion := 2, devs := [], «mint» := [], burnAddr := "b", oldBurnAddr := "o", mintAddr := "m", coinbaseAddr := "c", zeroAddr := "0" }

def wDB : DB :=
  { rates := ((List.range 20).map (· + 1)).filterMap fun h =>
      if h = 10 then none else some { height := h, token := "pUSD", value := 100 * h } }

/-- the cache of a process that has been running since height 1 and was asked for every height -/
def continuous (upto : Nat) : AvgCache :=
  ((List.range upto).map (· + 1)).foldl (fun c h => (getAverages wP wDB c h).1) {}

/-- Continuous process vs. freshly restarted process at height 14: the averages differ
    (1000 vs 1057), so a conversion priced with them credits different amounts. -/
theorem restart_dependent_witness :
    (getAverages wP wDB (continuous 13) 14).2.get 2 = 1000 ∧ (reloadAverages wP wDB 14).get 2 = 1057 := by
  decide

/-- hence the full statement is false: there is a database, a height and two admissible histories
    of the same process (with / without a restart) for which the pricing input differs -/
theorem not_restart_independent :
    ¬ (∀ (P : Params) (db : DB) (c : AvgCache) (h : Nat), (getAverages P db c h).2 = reloadAverages P db h) := by
  intro hall
  have := hall wP wDB (continuous 13) 14
  have w := restart_dependent_witness
  rw [this] at w
  omega

/-- Below the PIP-10 activation `Convert` ignores the averages, so the outcome of a block does
    not depend on the in-memory cache at all: two processes on the same database apply it with
    the same result whatever their histories. -/
theorem block_independent_of_cache_below_pip10 (P : Params) (n₁ n₂ : Node) (b : Block) (hdb : n₁.db = n₂.db)
    (hlt : b.height < P.act.pip10) :
    (applyBlock P n₁ b).1.db = (applyBlock P n₂ b).1.db ∧ (applyBlock P n₁ b).2 = (applyBlock P n₂ b).2 :=
  applyBlock_congr hdb fun c => blockTx_avgs c b _ _ hlt

/-- from any consistent database being resumed; `restart_independent_partial` is the case of a fresh one -/
theorem restart_independent_partial_from (P : Params) (ch : Nat → Block) (hch : ∀ h, (ch h).height = h)
    (n₀ : Node) (h0 : InOrder P n₀.mem n₀) (es : List Ev) (hb : BelowPip10 P ch n₀ es) :
    (runEvs P ch n₀ es).db.ledger = (runEvs P ch n₀ (es.filter Ev.isAttempt)).db.ledger ∧
    (runEvs P ch n₀ es).mem = (runEvs P ch n₀ (es.filter Ev.isAttempt)).mem :=
  only_attempts_matter P ch hch n₀.mem es n₀ n₀ n₀.db.syncVersions rfl rfl h0 h0 hb

/-- **`restart_independent_partial`**: for every run of the daemon that stays below the PIP-10
    activation, stopping and starting it any number of times, anywhere, changes nothing: the
    ledger and the sync height are those of the run without the restarts (and without the aborted
    iterations). Above PIP-10 the statement is false — `not_restart_independent`. -/
theorem restart_independent_partial (P : Params) (ch : Nat → Block) (hch : ∀ h, (ch h).height = h)
    (es : List Ev) (hb : BelowPip10 P ch (freshNode P) es) :
    (runEvs P ch (freshNode P) es).db.ledger = (runEvs P ch (freshNode P) (es.filter Ev.isAttempt)).db.ledger ∧
    (runEvs P ch (freshNode P) es).mem = (runEvs P ch (freshNode P) (es.filter Ev.isAttempt)).mem :=
  restart_independent_partial_from P ch hch (freshNode P) (inOrder_fresh P) es hb

/-- a restart keeps every ledger table and re-derives the sync height from the database -/
theorem restart_keeps_ledger (P : Params) (n : Node) : (restart P n).db.ledger = n.db.ledger := rfl

/-- what the cache holds after any call, ticker by ticker: the quotes of the height window of the
    height asked for — whether the answer came from the cache, from a reload, or from the
    incremental step out of a window without a hole -/
theorem cache_holds_the_window (P : Params) (hp : 0 < P.avgPeriod) (db : DB) (c : AvgCache) (height : Nat)
    (hc : CacheSem P db c) (hh : c.height + 1 = height → ∀ t, NoHole P db c.height t) :
    CacheSem P db (getAverages P db c height).1 ∧ (getAverages P db c height).1.height = height :=
  getAverages_sem P hp db c height hc hh

/-- the block transaction reads the averages only through what they answer per ticker (at every
    height, above PIP-10 too) -/
theorem block_reads_averages_per_ticker {P : Params} (c : DB) (b : Block) (a₁ a₂ : TMap) (hg : ∀ t, a₁.get t = a₂.get t) :
    blockTx P c b a₁ = blockTx P c b a₂ :=
  blockTx_get c b a₁ a₂ hg

/-- a ticker that, once quoted, is quoted at every later rated height up to `H` leaves no hole -/
theorem no_hole_when_quotes_continue (P : Params) (db : DB) (H : Nat) (t : Ticker)
    (h : ∀ g, g < H → quoteAt P db g t ≠ [] → quoteAt P db (g + 1) t ≠ []) : NoHole P db H t := by
  intro hH i hi hq
  exact h _ (by omega) hq

/-- from any consistent database being resumed by a process whose cache holds the window of its
    height (a freshly started one does: the `restart` case of `stepEv_good`); `restart_independent_whole_windows` is
    the case of a fresh database -/
theorem restart_independent_whole_windows_from (P : Params) (hp : 0 < P.avgPeriod) (ch : Nat → Block) (hch : ∀ h, (ch h).height = h)
    (n₀ : Node) (h0 : InOrder P n₀.mem n₀) (g0 : CacheGood P n₀) (es : List Ev) (hw : WholeRun P ch n₀ es) :
    (runEvs P ch n₀ es).db.ledger = (runEvs P ch n₀ (es.filter Ev.isAttempt)).db.ledger ∧
    (runEvs P ch n₀ es).mem = (runEvs P ch n₀ (es.filter Ev.isAttempt)).mem :=
  only_attempts_matter_whole P hp ch hch n₀.mem es n₀ n₀ n₀.db.syncVersions rfl rfl h0 h0 g0 g0 hw

/-- **`restart_independent_whole_windows`**: at EVERY height — above the PIP-10 activation too —
    any run of the daemon with any number of restarts, kills and failed iterations ends in the ledger
    and sync height of the run without them, provided no averaging window the incremental path
    starts from has a hole (`WholeRun`: inside the window a quoted height is never followed by an
    unquoted one, i.e. no ungraded block after a quoted height). Together with the witness below
    this pins the known finding down: restart dependence needs a hole, and a hole suffices. -/
theorem restart_independent_whole_windows (P : Params) (hp : 0 < P.avgPeriod) (ch : Nat → Block) (hch : ∀ h, (ch h).height = h)
    (es : List Ev) (hw : WholeRun P ch (freshNode P) es) :
    (runEvs P ch (freshNode P) es).db.ledger = (runEvs P ch (freshNode P) (es.filter Ev.isAttempt)).db.ledger ∧
    (runEvs P ch (freshNode P) es).mem = (runEvs P ch (freshNode P) (es.filter Ev.isAttempt)).mem :=
  restart_independent_whole_windows_from P hp ch hch (freshNode P) (inOrder_fresh P) (cacheGood_fresh P) es hw

/-- the witness of `restart_dependent_witness` is a hole: in the window [6, 13] of the running
    process height 9 is quoted and height 10 (the ungraded block) is not -/
theorem witness_window_has_a_hole : ¬ NoHole wP wDB 13 2 := by
  intro h
  have := h (by decide) 3 (by decide)
  revert this
  decide

/-- the hypothesis is satisfiable on a window that matters: the same rate table without the gap
    (heights 1..20 all rated) has no hole in the window [6, 13] -/
def wDBfull : DB :=
  { rates := ((List.range 20).map (· + 1)).map fun h => { height := h, token := "pUSD", value := 100 * h } }

example : NoHole wP wDBfull 13 2 := by
  intro _ i hi
  match i, hi with
  | 0, _ => decide
  | 1, _ => decide
  | 2, _ => decide
  | 3, _ => decide
  | 4, _ => decide
  | 5, _ => decide
  | 6, _ => decide
  | i + 7, hi => exact absurd hi (by show ¬ i + 7 + 1 < 8; omega)

/-- … and there the running process and a restarted one answer alike -/
example : (getAverages wP wDBfull
      (((List.range 13).map (· + 1)).foldl (fun c h => (getAverages wP wDBfull c h).1) {}) 14).2.get 2
    = (reloadAverages wP wDBfull 14).get 2 := by decide

end Pegnet.C09

#print axioms Pegnet.C09.reload_is_function_of_db
#print axioms Pegnet.C09.cache_hit
#print axioms Pegnet.C09.restart_keeps_database
#print axioms Pegnet.C09.restart_dependent_witness
#print axioms Pegnet.C09.not_restart_independent
#print axioms Pegnet.C09.block_independent_of_cache_below_pip10
#print axioms Pegnet.C09.restart_independent_partial
#print axioms Pegnet.C09.restart_independent_partial_from
#print axioms Pegnet.C09.restart_keeps_ledger
#print axioms Pegnet.C09.cache_holds_the_window
#print axioms Pegnet.C09.block_reads_averages_per_ticker
#print axioms Pegnet.C09.no_hole_when_quotes_continue
#print axioms Pegnet.C09.restart_independent_whole_windows
#print axioms Pegnet.C09.restart_independent_whole_windows_from
#print axioms Pegnet.C09.witness_window_has_a_hole

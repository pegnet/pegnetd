import Proofs.Rates
import Proofs.Chain
import Pegnet.Generated.Facts
/-
  C12 — Recorded rates follow the winning records and are immutable.
-/
namespace Pegnet.C12
open Pegnet

/-- Rates once recorded for a height never change: replaying any further blocks (of other
    heights — a healthy Factom node serves each height once) leaves the rows of height `g`
    exactly as they were. For every chain, every block content, every oracle answer. -/
theorem rates_immutable (P : Params) (n : Node) (chain : List Block) (g : Nat)
    (hg : ∀ b ∈ chain, g ≠ b.height) :
    (runBlocks P n chain).db.ratesAt g = n.db.ratesAt g :=
  runBlocks_rel_ok ⟨fun _ _ => rfl⟩ chain (fun b hb => blockTx_ratesAt (hg b hb)) n

/-- a single block (applied or rolled back) never touches rate rows of another height -/
theorem block_touches_only_its_height (P : Params) (n : Node) (b : Block) (g : Nat) (hg : g ≠ b.height) :
    (applyBlock P n b).1.db.ratesAt g = n.db.ratesAt g :=
  applyBlock_ratesAt P n b g hg

/-- A block without rates executes no pending conversions: when the block has no rates the
    holding phase is the identity. -/
theorem no_rates_no_conversions (P : Params) (c : DB) (b : Block) (avgs : TMap) (s : DB) :
    holdingPhase P c b avgs false s = .ok () s := by
  unfold holdingPhase
  simp

/-- Before PegNet 2.0 a block without an OPR eblock records nothing. -/
theorem no_winners_no_rates_v1 (P : Params) (c : DB) (b : Block) (s : DB)
    (hh : b.height < P.act.v20) (ho : b.opr = .absent) :
    gradeAndRates P c b s = .ok (.cont false) s := by
  rw [gradeAndRates_absent c ho (.inl hh)]
  rfl

/-- From PegNet 2.0 on, a block in which neither record set produced a winner records no
    rates (and reports "no rates available"). -/
theorem no_winners_no_rates_v2 (P : Params) (c : DB) (b : Block) (s : DB)
    (hh : ¬ b.height < P.act.v20) (ho : b.opr = .absent) (hs : b.spr = .absent) :
    gradeAndRates P c b s = .ok (.cont false) s := by
  rw [gradeAndRates_absent c ho (.inr hs)]
  rfl

/-- the band rule of the 2.0.2 era: in-band assets take the OPR value, out-of-band ones are
    recorded as 0 under the SPR's asset name; other eras reject the block's rates instead. -/
theorem band_rule_step (P : Params) (h : Nat) (o s : String × Nat) (acc : List (String × Nat))
    (hname : (o.1 == s.1) = true) :
    (if o.1 == s.1 then
        (let (tn, td) := if h ≥ P.act.v202 then (25, 2) else (1, 1)
         if inBand o.2 s.2 tn td then some (acc ++ [o])
         else if h ≥ P.act.v202 then some (acc ++ [(s.1, 0)]) else none)
      else some acc) =
    (if h ≥ P.act.v202 then
        (if inBand o.2 s.2 25 2 then some (acc ++ [o]) else some (acc ++ [(s.1, 0)]))
      else (if inBand o.2 s.2 1 1 then some (acc ++ [o]) else none)) := by
  rw [if_pos hname]
  by_cases hv : h ≥ P.act.v202
  · simp [hv]
  · simp [hv]

/-- the tolerances are the constants of the source: 10 %, 25 % from 2.0.2, 1 % and 0.1 % before
    the developer-reward activation (regenerated from node/sync.go on every run). -/
theorem band_constants_match_source :
    Generated.bands = [("GetAssetRates:tol", "0.1"), ("GetAssetRates:tol:override", "0.25"),
      ("GetAssetRates:guard", "height >= config.V202EnhanceActivation"),
      ("GetAssetRatesV0:tol", "0.01"), ("GetAssetRatesV0:tol:override", "0.001"),
      ("GetAssetRatesV0:threshold", "sprRate >= 100000")] := rfl

/-! exact binary64 evaluation of the band edge (the edge is not the rational edge) -/
example : inBand 6600000000000 6000000000000 1 1 = true := by decide
example : inBand 6600000000001 6000000000000 1 1 = false := by decide
example : inBand 75 100 25 2 = true ∧ inBand 74 100 25 2 = false ∧ inBand 125 100 25 2 = true ∧ inBand 126 100 25 2 = false := by decide

/-- `InsertRates` itself: exactly `rateRows`, nothing else touched -/
theorem insert_rates_exact {P : Params} {c : DB} {h : Nat} {assets : List (String × Nat)} {phase : Phase} {s s' : DB}
    (hr : insertRates P c h assets phase s = .ok () s') :
    s' = { s with rates := s.rates ++ rateRows P c h assets phase } :=
  insertRates_ok hr

/-- **`rates_recorded_exact`.** Whenever the grading step of a block makes rates available — for
    every block content and every answer of the grading libraries — the rate table grows by
    exactly the rows of the selected asset list (`rateRows`): one `p<NAME>` row per non-PEG asset in
    the winner's order with the winner's value, then the PEG row priced by the phase of the height
    (`pegPrice`: 0, the equation over the committed supply, or the winner's PEG quote). The
    selected list (`selectedAssets`) is the winning OPR's before 2.0, and from 2.0 on the winning
    OPR's list filtered against the winning SPR's by the band rule of the era (`assetRatesV0`
    1 % / 0.1 %, `assetRates` 10 % / 25 %-or-zero). Nothing else is written to the rate table. -/
theorem rates_recorded_exact {P : Params} {c : DB} {b : Block} {s s' : DB}
    (hr : gradeAndRates P c b s = .ok (.cont true) s') :
    ∃ sel, selectedAssets P b = some sel ∧
      s'.rates = s.rates ++ rateRows P c b.height sel (if b.height < P.act.v20 then phaseAt P b.height else .floating) := by
  revert hr
  -- the end of the grading step in both eras: unless no record set has a winner (`t`), the list the era selects
  -- (`r`; before 2.0 there always is one) is inserted. Stated for variables and applied up to unfolding, because
  -- `gradeAndRates` and `selectedAssets` each match on the block's answers on their own.
  have tail : ∀ (t : Bool) (r : Option (List (String × Nat))) (ph : Phase) (s1 : DB), s1.rates = s.rates →
      ((if (!t) = true then
          match r with
          | none => pure RateStep.earlyReturn
          | some f => do insertRates P c b.height f ph; pure (RateStep.cont true)
        else pure (RateStep.cont false)) : LM RateStep) s1 = .ok (.cont true) s' →
      ∃ sel, (if t = true then none else r) = some sel ∧ s'.rates = s.rates ++ rateRows P c b.height sel ph := by
    intro t r ph s1 k1
    cases t with
    | true => nofun
    | false =>
      cases r with
      | none => nofun
      | some f =>
        intro hr
        obtain ⟨_, s2, h3, h4⟩ := M.bind_ok hr
        exact ⟨f, rfl, by rw [(M.pure_ok h4).2, insert_rates_exact h3, k1]⟩
  fun_cases gradeAndRates P c b
  case case3 hh g ho =>
    intro hr
    obtain ⟨_, s1, h1, h2⟩ := M.bind_ok hr
    rw [if_pos hh, show selectedAssets P b = _ from if_pos hh, ho]
    exact tail g.winners.isEmpty (some g.assets) _ s1 ((insertGradeBlock_keeps_rates b.height b.oprKeymr g).ok h1) h2
  case case6 hh _ _ =>
    intro hr
    obtain ⟨oa, s1, h1, hr⟩ := M.bind_ok hr
    rw [if_neg hh, show selectedAssets P b = _ from if_neg hh]
    simp only [← Bool.not_and] at hr
    -- grading the OPR block writes no rate row
    revert h1
    cases b.opr with
    | graded g =>
      intro h1
      obtain ⟨_, s2, h2, h3⟩ := M.bind_ok h1
      cases h3
      exact tail _ _ _ _ ((insertGradeBlock_keeps_rates b.height b.oprKeymr g).ok h2) hr
    | _ =>
      intro h1
      cases h1
      exact tail _ _ _ s rfl hr
  -- the remaining cases of `gradeAndRates` fail, or report that no rates are available
  all_goals nofun

/-- non-vacuity: a winning OPR with two assets and a PEG quote in the floating phase -/
def xP : Params :=
  { act := ⟨0,0,0,0,0,0,0,0,0,0,0,0,0,0,0,0,0⟩, tickerMax := 63, tickerNames := [], oneWaySet := [],
    snapshotRate := 144, perBlockHolders := 0, perBlockDevs := 0, bankBase := 0, avgPeriod := 8, avgRequired := 4,
    syncVersion := 2, devs := [], «mint» := [], burnAddr := "", oldBurnAddr := "", mintAddr := "", coinbaseAddr := "", zeroAddr := "" }
example : (rateRows xP {} 7 [("PEG", 5), ("USD", 100), ("EUR", 110)] .floating).map (fun r => (r.height, r.token, r.value)) =
    [(7, "pUSD", 100), (7, "pEUR", 110), (7, "PEG", 5)] := by
  decide

/-- the shipped schedule, regenerated from config/activations.go and fat/fat2/activations.go on every
    run, against the values this property was read with: the heights at which the PEG pricing phase, the SPR band and its width change. Every scenario of the harness
    runs on a compressed schedule that overwrites these constants, so nothing else would notice one of
    them moving; a moved height is a different protocol, not a rewrite. -/
theorem shipped_schedule :
    let a := Generated.activations
    Generated.activationsComplete = true ∧ a.pegPricing = 214287 ∧ a.pegFloat = 222270 ∧ a.v20 = 258796 ∧ a.devRewards = 260118 ∧ a.v202 = 274036 := by
  decide
end Pegnet.C12

#print axioms Pegnet.C12.rates_immutable
#print axioms Pegnet.C12.block_touches_only_its_height
#print axioms Pegnet.C12.no_rates_no_conversions
#print axioms Pegnet.C12.no_winners_no_rates_v1
#print axioms Pegnet.C12.no_winners_no_rates_v2
#print axioms Pegnet.C12.band_rule_step
#print axioms Pegnet.C12.band_constants_match_source
#print axioms Pegnet.C12.rates_recorded_exact
#print axioms Pegnet.C12.insert_rates_exact
#print axioms Pegnet.C12.shipped_schedule


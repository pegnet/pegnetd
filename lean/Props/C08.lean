import Proofs.HistOK
import Proofs.Rates
/-
  C08 — Sync liveness. Two defects found by this check were repaired in /repo (known-findings.jsonl:
  the GradeS panic and the repeated-entry-hash wedge); the theorems below state the repaired
  behaviour. The full statement ("applying ANY block succeeds") still does not hold in the legacy
  eras (bank-era mixed batches, snapshot without rates before 2.0.2) — those shapes are recorded as
  known findings and excluded by the hypotheses of the theorems below (DESIGN §7: `block_total_partial`).
-/
namespace Pegnet.C08
open Pegnet

/-- In the model every function is total: block application always returns (a result or a named
    failure) — there is no divergence. (Lean accepts the definitions only with termination proofs.) -/
theorem block_application_returns (P : Params) (n : Node) (b : Block) :
    ∃ n' r, applyBlock P n b = (n', r) := ⟨_, _, rfl⟩

/-- a panic inside the staking grader library (outside the model: the harness reports it as the
    oracle answer `.panic`) would fail the block at every height — GradeS runs before any era check -/
theorem spr_short_extids_panics (P : Params) (c : DB) (b : Block) (avgs : TMap) (s : DB) (site : String)
    (hs : b.spr = .panic site) (h1 : b.height ≠ P.act.v204) (h2 : b.height ≠ P.act.v204Burn) :
    ∃ s', syncBlock P c b avgs s = .fail (.panic site) s' := by
  unfold syncBlock
  refine ⟨s, ?_⟩
  rw [M.bind_run, preAdjust_skip c s h1 h2]
  simp only
  rw [M.bind_run]
  unfold sprPanicCheck
  rw [hs]
  rfl

/-- since the repair (known-findings.jsonl) the staking glue never panics: an entry with fewer than
    two external ids is skipped, it is never handed to the grader -/
theorem spr_glue_total (db : DB) (entries : List (Option Addr)) : (sprPass db entries).isSome = true := rfl

theorem spr_short_entries_skipped (db : DB) (entries : List (Option Addr)) (idx : List Nat) (i : Nat)
    (h : sprPass db entries = some idx) (hi : i ∈ idx) : ∃ a, (entries.zipIdx.any fun p => p.2 == i && p.1 == some a) = true :=
  (sprPass_some h i hi).imp fun _ ha => ha.1

def wP : Params :=
  { act := ⟨0,0,0,0,0,0,0,0,0,0,100,100,200,200,300,310,400⟩, tickerMax := 63, tickerNames := ["PEG", "pUSD", "pEUR"], oneWaySet := [],
    snapshotRate := 144, perBlockHolders := 0, perBlockDevs := 0, bankBase := 0, avgPeriod := 8, avgRequired := 4,
    syncVersion := 2, devs := [], «mint» := [], burnAddr := "b", oldBurnAddr := "o", mintAddr := "m", coinbaseAddr := "c", zeroAddr := "0" }
def convEntry : TxEntry :=
  { hash := "e1", ts := 0, validRCD1 := true, validRCDe := true,
    parsed := some (1, [{ inAddr := "alice", inType := 2, inAmount := 5, transfers := [], conversion := 3 }]) }

/-- since the repair a repeated entry hash is skipped instead of violating the history tables'
    keys: the same conversion twice in one block is recorded (and held) once -/
theorem duplicate_hash_same_block_applies :
    (match applyTransactionBlock wP 5 "k" [convEntry, convEntry] {} with
     | .ok _ s => (s.histB.length, s.holding.length)
     | .fail _ _ => (0, 0)) = (1, 1) := by decide

/-- …and an entry that is still pending and is written again in a later block is skipped too -/
theorem resubmitted_pending_entry_applies :
    (match applyTransactionBlock wP 5 "k" [convEntry] {} with
     | .ok _ s1 =>
        (match applyTransactionBlock wP 6 "k" [convEntry] s1 with
         | .ok _ s2 => (s2.histB.length, s2.holding.length)
         | .fail _ _ => (0, 0))
     | .fail _ _ => (0, 0)) = (1, 1) := by decide

/-- an entry already recorded in the history is skipped entirely, whatever its status -/
theorem recorded_entry_is_skipped (P : Params) (h : Nat) (keymr : String) (bo : Nat) (e : TxEntry) (s : DB)
    (hx : s.isRecorded e.hash = true) : applyTxEntry P h keymr bo e s = .ok () s :=
  applyTxEntry_skip_recorded hx

/-- `block_total_partial` (DESIGN §7): a block with no tracked-chain content at an ordinary height (no
    one-time event, no snapshot / developer payout) always applies, on any ledger whose version
    table does not yet contain the height. -/
theorem empty_block_total (P : Params) (c s : DB) (b : Block) (avgs : TMap)
    (hopr : b.opr = .absent) (hspr : b.spr = .absent) (htx : b.txs = none) (hf : b.fcts = [])
    (h1 : b.height ≠ P.act.v204) (h2 : b.height ≠ P.act.v204Burn)
    (h3 : ¬ (b.height ≥ P.act.v20 ∧ b.height % P.snapshotRate = 0))
    (h4 : ¬ (b.height ≥ P.act.devRewards ∧ b.height % P.snapshotRate = 0)) :
    syncBlock P c b avgs s = .ok () s := by
  -- every phase of `SyncBlock` is `pure`
  have hc : sprPanicCheck b = pure () := by unfold sprPanicCheck; rw [hspr]
  have hg := gradeAndRates_absent (P := P) c hopr (.inr hspr)
  have t1 : snapshotPhase P b = pure () := by unfold snapshotPhase; exact if_neg h3
  have t3 : txBlockPhase P b = pure () := by unfold txBlockPhase; rw [htx]
  have htxp : txPhase P c b avgs false = pure () := by
    unfold txPhase
    rw [t1, t3]
    exact ite_self _
  have f1 : applyFactoidBlock P b.height b.burnRCD b.fcts = pure () := by rw [hf]; rfl
  have f2 : oprRewardPhase P b = pure () := by unfold oprRewardPhase; rw [hopr]
  have f3 : sprRewardPhase P b = pure () := by unfold sprRewardPhase; rw [hspr]; exact ite_self _
  have f4 : devRewardPhase P b = pure () := by unfold devRewardPhase; exact if_neg h4
  have hrw : rewardPhase P b = pure () := by
    unfold rewardPhase
    rw [f1, f2, f3, f4]
    exact ite_self _
  unfold syncBlock
  rw [M.bind_run, preAdjust_skip c s h1 h2, hc, hg, hrw]
  show (txPhase P c b avgs false >>= fun _ => pure ()) s = _
  rw [htxp]
  rfl

/-! ### "bad entries are skipped, not fatal" -/

/-- **An entry that does not validate is skipped entirely**: undecodable content, a version or
    shape `ValidData` refuses, a missing / wrong / foreign signature, a salt outside its window, an
    amount above int64 — `applyTxEntry` writes nothing and the block goes on. -/
theorem invalid_entry_is_skipped (P : Params) (h : Nat) (keymr : String) (bo : Nat) (e : TxEntry) (s : DB)
    (hv : e.validAt P h = false) : applyTxEntry P h keymr bo e s = .ok () s :=
  applyTxEntry_skip_invalid hv

/-- … so a transaction-chain entry block in which NOTHING validates (any number of entries, any
    content) leaves the ledger exactly as it was and never fails the block -/
theorem all_invalid_entries_are_a_noop (P : Params) (h : Nat) (keymr : String) (es : List TxEntry) (s : DB)
    (hv : ∀ e ∈ es, e.validAt P h = false) : applyTransactionBlock P h keymr es s = .ok () s := by
  obtain ⟨_, s', h', rfl⟩ := Tot.forEachIdx (fun _ s' => s' = s)
    (fun k e he s' hs' => ⟨(), s', invalid_entry_is_skipped P h keymr k e s' (hv e he), hs'⟩) s rfl
  exact h'

/-- a held batch that no longer validates when its window is processed is given the reject status
    −2 and does not stop the block -/
theorem invalid_held_entry_is_rejected_not_fatal (P : Params) (h : Nat) (rates avgs : TMap) (e : TxEntry) (s : DB)
    (hv : e.validAt P h = false) :
    ∃ s', applyHeld P h rates avgs e s = .ok false s' ∧ s'.addrs = s.addrs := by
  rw [applyHeld_run, if_pos (by simp only [TxEntry.heldInvalid, hv, Bool.not_false, Bool.or_true])]
  exact ⟨_, rfl, rfl⟩

/-- **No transfer-only entry can fail the block** (DESIGN §7: `block_total_partial`, transaction chain):
    whatever a validly signed transfer-only entry contains — any number of transactions and outputs,
    change outputs, amounts at / above / far above the balance — its step of `ApplyTransactionBlock`
    succeeds: the arrival is recorded, then the batch is applied or rejected for lack of funds.
    Hypotheses: `hplain` is what the decoder and `Validate` guarantee for every accepted batch (known
    asset, amounts within int64, outputs within the input); `hb`: the sender is not the burn address
    (nobody holds its key); `hfresh`: no history row of this entry hash exists yet (an entry that is
    recorded is skipped: `recorded_entry_is_skipped`). Conversions are the other class: their
    failure modes are the recorded findings of this property. -/
theorem transfer_entry_never_fails (P : Params) (h : Nat) (keymr : String) (bo : Nat) (e : TxEntry) (s : DB)
    (a : Addr) (hb : a ≠ burnAddrAt P h) (hall : ∀ t ∈ e.txs, t.inAddr = a) (hplain : ∀ t ∈ e.txs, PlainTransfer P t)
    (hfresh : ∀ r ∈ s.histT, r.hash ≠ e.hash) :
    ∃ s', applyTxEntry P h keymr bo e s = .ok () s' :=
  Pegnet.transfer_entry_never_fails P h keymr bo e s a hb hall hplain hfresh

/-- the batch level of the same: applied or rejected, never a block-failing error -/
theorem transfer_batch_applied_or_rejected (P : Params) (h : Nat) (e : TxEntry) (rates avgs : Option TMap) (s : DB)
    (a : Addr) (hb : a ≠ burnAddrAt P h) (hall : ∀ t ∈ e.txs, t.inAddr = a) (hplain : ∀ t ∈ e.txs, PlainTransfer P t) :
    ∃ v s', applyBatch P h e rates avgs s = .ok v s' ∧ (v = .apply ∨ v = .reject (-1)) :=
  applyBatch_transfers_total P h e rates avgs s a hb hall hplain

/-- the arrival of an entry WITH conversions never fails the block either: recorded, then held
    (`hhold`: it is not held yet — an entry is held only after being recorded, and a recorded entry is
    skipped). What can fail a block is the EXECUTION of held conversions, where the recorded findings
    of this property live. -/
theorem conversion_entry_arrival_never_fails (P : Params) (h : Nat) (keymr : String) (bo : Nat) (e : TxEntry) (s : DB)
    (hconv : e.hasConversions P = true) (hfresh : ∀ r ∈ s.histT, r.hash ≠ e.hash)
    (hhold : ∀ r ∈ s.holding, r.entry.hash ≠ e.hash) :
    ∃ s', applyTxEntry P h keymr bo e s = .ok () s' :=
  entry_never_fails P h keymr bo e s (Or.inr (Or.inl hconv)) (fun _ => hfresh) fun _ _ => hhold

/-- the history and holding tables are consistent along every chain: every row of
    `pn_history_transaction` and every held entry belongs to a recorded batch (so an entry that is not
    recorded has neither a history row nor a holding row yet) -/
theorem history_consistent_along_every_chain (P : Params) (chain : List Block) :
    HistHoldOK (runBlocks P (freshNode P) chain).db :=
  runBlocks_histHoldOK P _ chain (histOK_fresh P)

/-- **After any chain, no entry block of the transaction chain can fail on arrival.** Every entry is
    of one of three kinds: it does not validate (skipped); it holds a conversion (recorded and put in
    holding); or it is transfer-only — then, with what the decoder guarantees (`PlainTransfer`) and a
    sender other than the burn address, it is recorded and applied or rejected for lack of funds.
    `HarmlessEntry` is that trichotomy with the side conditions of the third case; the freshness
    hypotheses of `transfer_entry_never_fails` / `conversion_entry_arrival_never_fails` are discharged
    by the invariant. -/
theorem harmless_tx_block_never_fails_after_any_chain (P : Params) (chain : List Block) (h : Nat) (keymr : String)
    (es : List TxEntry) (he : ∀ e ∈ es, HarmlessEntry P h e) :
    ∃ s', applyTransactionBlock P h keymr es (runBlocks P (freshNode P) chain).db = .ok () s' := by
  obtain ⟨s', h', _⟩ := harmless_tx_block_never_fails P h keymr es _ (history_consistent_along_every_chain P chain) he
  exact ⟨s', h'⟩

/-- the trichotomy: an entry whose transfer-only case meets the side conditions is harmless -/
theorem every_entry_is_harmless (P : Params) (h : Nat) (e : TxEntry)
    (hside : e.validAt P h = true → e.hasConversions P = false →
      ∃ a, a ≠ burnAddrAt P h ∧ (∀ t ∈ e.txs, t.inAddr = a) ∧ ∀ t ∈ e.txs, PlainTransfer P t) :
    HarmlessEntry P h e := by
  cases hv : e.validAt P h with
  | false => exact Or.inl hv
  | true =>
    cases hc : e.hasConversions P with
    | true => exact Or.inr (Or.inl hc)
    | false => exact Or.inr (Or.inr (hside hv hc))

/-- **Executing a held batch never fails the block**, whatever it holds — transfers, ordinary
    conversions, PEG requests, mixed — funded or not, still valid at this height or not, on any
    ledger: with the block's rates at hand (`hr`: the block is rated) the batch is applied, rejected
    with a status (−1 funds, −2 invalid, −3 pFCT, −4 zero rate, −5 small assets), dropped (conversion
    not computable), or skipped as a replay. (`hplain`: known asset and int64 amounts, from the
    decoder; `hb`: the sender is not the burn address.) What CAN fail a bank-era block is the bank
    pass that follows (`recordPegnetRequests` on a batch mixing a transfer with a PEG request): the
    recorded finding of this property. -/
theorem held_batch_execution_never_fails (P : Params) (h : Nat) (rates avgs : TMap) (hr : rates.isEmpty = false)
    (e : TxEntry) (s : DB) (a : Addr) (hb : a ≠ burnAddrAt P h) (hall : ∀ t ∈ e.txs, t.inAddr = a)
    (hplain : ∀ t ∈ e.txs, PlainTx P t) :
    ∃ j s', applyHeld P h rates avgs e s = .ok j s' :=
  applyHeld_total P h rates avgs hr e s a hb hall hplain

/-- the batch level: with rates, `applyTransactionBatch` returns a verdict, never a block-failing error -/
theorem batch_with_rates_never_fails (P : Params) (h : Nat) (e : TxEntry) (r : TMap) (hr : r.isEmpty = false)
    (avgs : Option TMap) (s : DB) (a : Addr) (hb : a ≠ burnAddrAt P h) (hall : ∀ t ∈ e.txs, t.inAddr = a)
    (hplain : ∀ t ∈ e.txs, PlainTx P t) :
    ∃ v s', applyBatch P h e (some r) avgs s = .ok v s' :=
  applyBatch_total P h e r hr avgs s a hb hall hplain

/-- non-vacuity: an ordinary conversion meets `PlainTx` -/
example : PlainTx wP { inAddr := "alice", inType := 2, inAmount := 100, transfers := [], conversion := 3 } :=
  ⟨by decide, by decide, by decide, by decide⟩

/-- non-vacuity: a two-output transfer with change meets `PlainTransfer` -/
example : PlainTransfer wP { inAddr := "alice", inType := 2, inAmount := 100, transfers := [⟨"bob", 70⟩, ⟨"alice", 30⟩], conversion := 0 } :=
  ⟨by decide, by decide, by decide, by decide, by decide⟩

end Pegnet.C08

#print axioms Pegnet.C08.block_application_returns
#print axioms Pegnet.C08.spr_short_extids_panics
#print axioms Pegnet.C08.spr_glue_total
#print axioms Pegnet.C08.spr_short_entries_skipped
#print axioms Pegnet.C08.duplicate_hash_same_block_applies
#print axioms Pegnet.C08.resubmitted_pending_entry_applies
#print axioms Pegnet.C08.recorded_entry_is_skipped
#print axioms Pegnet.C08.empty_block_total
#print axioms Pegnet.C08.invalid_entry_is_skipped
#print axioms Pegnet.C08.all_invalid_entries_are_a_noop
#print axioms Pegnet.C08.invalid_held_entry_is_rejected_not_fatal
#print axioms Pegnet.C08.transfer_entry_never_fails
#print axioms Pegnet.C08.transfer_batch_applied_or_rejected
#print axioms Pegnet.C08.conversion_entry_arrival_never_fails
#print axioms Pegnet.C08.history_consistent_along_every_chain
#print axioms Pegnet.C08.harmless_tx_block_never_fails_after_any_chain
#print axioms Pegnet.C08.held_batch_execution_never_fails
#print axioms Pegnet.C08.batch_with_rates_never_fails
#print axioms Pegnet.C08.every_entry_is_harmless

import Proofs.Chain
import Proofs.BatchLemmas
import Proofs.Precheck
/-
  C03 — No overdraft; batches are all-or-nothing.
-/
namespace Pegnet.C03
open Pegnet

/-- No balance is ever negative: after replaying ANY chain of blocks (any entries on the tracked
    chains, any answers of the grading / signature libraries, any failures along the way) every
    address holds a non-negative amount of every asset, and has exactly one balance row. -/
theorem balances_nonneg (P : Params) (chain : List Block) (a : Addr) (t : Ticker) :
    0 ≤ (runBlocks P (freshNode P) chain).db.bal a t := by
  apply bal_nonneg_of_addrsOK
  apply runBlocks_addrsOK
  exact ⟨List.nodup_nil, fun r hr => by cases hr⟩

/-- …and the same from any state that satisfies the invariant (e.g. a database being resumed). -/
theorem balances_nonneg_from (P : Params) (n : Node) (chain : List Block) (h : AddrsOK n.db)
    (a : Addr) (t : Ticker) : 0 ≤ (runBlocks P n chain).db.bal a t :=
  bal_nonneg_of_addrsOK (runBlocks_addrsOK P n chain h) a t

/-- A batch is applied completely or not at all, part 1: a batch that is rejected (codes −1, −3,
    −4, −5) or dropped leaves the whole state exactly as it was (the caller then records only the
    status code). -/
theorem reject_is_noop {P : Params} {h : Nat} {e : TxEntry} {rates avgs : Option TMap} {s s' : DB} {v : Verdict}
    (hr : applyBatch P h e rates avgs s = .ok v s') (hv : v ≠ .apply) : s' = s :=
  applyBatch_noop hr hv

/-- No batch can spend more of an asset than its input address holds when it executes:
    every transaction of an accepted batch passed the funds check against the balance held
    before the batch. -/
theorem no_overspend {P : Params} {db : DB} {h : Nat} {rates avgs : Option TMap} {t0 : Tx} {rest : List Tx}
    (hv : verdict P db h rates avgs (t0 :: rest) = .apply) :
    ∀ t ∈ t0 :: rest, (t.inAmount : Int) ≤ db.bal t0.inAddr t.inType :=
  verdict_apply_funded hv

/-- **`precheck_sound`: the in-memory simulation before any write agrees with the writes.** If
    both passes of `applyTransactionBatch` accept a batch (all its inputs name one address, as
    `Validate` guarantees; not the burn address, which nobody can sign for), then `recordBatch` —
    which re-checks every debit against the database — never meets an insufficient balance,
    however the transactions of the batch interact: several inputs drawing on one balance, credits
    arriving mid-batch from conversions and from outputs back to the sender, PEG requests whose
    output is deferred to the bank pass (fix eb58d6d). Any failure it can end in is an SQL-level
    one that fails the whole block. So no batch spends more of an asset than its input address
    holds at the moment it executes, and an accepted batch is applied completely. -/
theorem precheck_sound (P : Params) (db : DB) (h : Nat) (hash : Hash) (rates avgs : Option TMap) (t0 : Tx) (rest : List Tx)
    (hv : verdict P db h rates avgs (t0 :: rest) = .apply)
    (hall : ∀ t ∈ rest, t.inAddr = t0.inAddr) (hb : t0.inAddr ≠ burnAddrAt P h) :
    ∀ e s', recordBatch P h hash rates avgs (t0 :: rest) db = .fail e s' → e ≠ .uncaught "insufficient balance" :=
  recordBatch_never_short P h hash rates avgs t0.inAddr hb (t0 :: rest) db
    (fun t ht => by
      rcases List.mem_cons.1 ht with rfl | ht
      · rfl
      · exact hall t ht)
    (verdict_apply hv).2

/-- one step of the cumulative pass: the transaction's input is covered by what the address holds
    after the earlier transactions of the same batch, and the balance carried forward is the old
    one minus the input plus what this transaction credits back to the address -/
theorem cumulative_pass_step {P : Params} {h : Nat} {rates avgs : Option TMap} {bal : Ticker → Int} {t : Tx} {rest : List Tx}
    (hp : pass2 P h rates avgs bal (t :: rest) = none) :
    (t.inAmount : Int) ≤ bal t.inType ∧ ∃ c, creditOf P h rates avgs t = some c ∧
      pass2 P h rates avgs (fun x => bal x - (if x = t.inType then (t.inAmount : Int) else 0) + c x) rest = none :=
  pass2_cons_none hp

/-- the debit itself re-checks: `SubFromBalance` never writes when the balance is short -/
theorem debit_guarded (P : Params) (a : Addr) (t : Ticker) (v : Nat) (s : DB)
    (hv : v ≠ 0) (hvt : validTicker P t = true) (hshort : s.bal a t < (v : Int)) :
    subBal P a t v s = .ok false s := by
  unfold subBal
  rw [if_neg hv, if_neg (by simp [hvt]), M.get_bind, if_pos hshort]
  rfl

/-- part 2: any failure inside the block transaction leaves the committed database untouched -/
theorem failed_block_changes_nothing (P : Params) (n : Node) (b : Block) (e : Failure)
    (hf : (applyBlock P n b).2 = some e) : (applyBlock P n b).1.db = n.db :=
  applyBlock_failed hf

/-! non-vacuity: a two-transaction batch drawing twice on the same 10 units is rejected by the
    cumulative pass although each transaction alone is funded. -/
def exP : Params :=
  { act := ⟨0,0,0,0,0,0,0,0,0,0,0,0,0,0,0,0,0⟩, tickerMax := 63, tickerNames := [], oneWaySet := [],
    snapshotRate := 144, perBlockHolders := 0, perBlockDevs := 0, bankBase := 0, avgPeriod := 8, avgRequired := 4,
    syncVersion := 2, devs := [], «mint» := [], burnAddr := "burn", oldBurnAddr := "old", mintAddr := "mint",
    coinbaseAddr := "cb", zeroAddr := "00" }
def exDB : DB := { addrs := [{ addr := "alice", bals := setB [] 2 10 }] }
def exTx : Tx := { inAddr := "alice", inType := 2, inAmount := 10, transfers := [{ addr := "bob", amount := 10 }], conversion := 0 }
example : verdict exP exDB 5 none none [exTx] = .apply := by decide
example : verdict exP exDB 5 none none [exTx, exTx] = .reject (-1) := by decide

end Pegnet.C03

#print axioms Pegnet.C03.balances_nonneg
#print axioms Pegnet.C03.balances_nonneg_from
#print axioms Pegnet.C03.reject_is_noop
#print axioms Pegnet.C03.no_overspend
#print axioms Pegnet.C03.debit_guarded
#print axioms Pegnet.C03.failed_block_changes_nothing
#print axioms Pegnet.C03.precheck_sound
#print axioms Pegnet.C03.cumulative_pass_step

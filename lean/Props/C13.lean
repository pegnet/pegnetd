import Proofs.Arith
import Pegnet.Generated.Facts
import Proofs.RestartAvg
/-
  C13 — Conversion admission rules by height.
-/
namespace Pegnet.C13
open Pegnet

/-- the admission rule table, in the order the checks are made -/
def admitSpec (P : Params) (h : Nat) (bal : Int) (rates avgs : TMap) (t : Tx) : Verdict :=
  if (t.inAmount : Int) > bal then .reject (-1)
  else if rates.isEmpty then .failBlock (.uncaught "rates must exist if TransactionBatch contains conversions")
  else if rates.get t.inType = 0 ∨ rates.get t.conversion = 0 then .reject (-4)
  else if h ≥ P.act.oneWayFCT ∧ t.conversion = tFCT then .reject (-3)
  else if h ≥ P.act.oneWaySmall ∧ P.oneWaySet.contains t.conversion then .reject (-5)
  else match convert P.act.pip10 h (toInt64 t.inAmount) (rates.get t.inType) (avgs.get t.inType)
              (rates.get t.conversion) (avgs.get t.conversion) with
    | none => .dropped
    | some _ => .apply

/-- For every source / destination pair, every height, every rate and average map and every
    balance: the outcome of a single-conversion batch is exactly the rule table's. -/
theorem admission_table (P : Params) (db : DB) (h : Nat) (rates avgs : TMap) (t : Tx)
    (hc : t.isConversion P = true) :
    verdict P db h (some rates) (some avgs) [t] = admitSpec P h (db.bal t.inAddr t.inType) rates avgs t := by
  -- the rule table is the first loop's cascade, read as a verdict
  have hspec : admitSpec P h (db.bal t.inAddr t.inType) rates avgs t =
      (pass1Tx P h (db.balances t.inAddr) (some rates) (some avgs) t).getD .apply := by
    unfold admitSpec pass1Tx
    rw [if_pos hc]
    simp only [apply_ite (Option.getD · Verdict.apply), Option.getD_some]
    cases convert P.act.pip10 h (toInt64 t.inAmount) (rates.get t.inType) (avgs.get t.inType)
      (rates.get t.conversion) (avgs.get t.conversion) <;> rfl
  rw [hspec, verdict_cons, pass1_eq_findSome?, List.findSome?_singleton]
  cases hp : pass1Tx P h (db.balances t.inAddr) (some rates) (some avgs) t with
  | some v => rfl
  | none =>
    -- a conversion the first loop lets through is funded and computable: the second accepts it
    obtain ⟨hf, hcv⟩ := pass1Tx_cases hp
    obtain ⟨c, hcr⟩ := creditOf_isSome_iff.2 hcv
    rw [pass2_cons, if_neg (Int.not_lt.2 hf), hcr]
    rfl

/-- the rule table past its first three rows: funded, rates present and non-zero on both sides -/
theorem admitSpec_funded_rated (P : Params) (h : Nat) {bal : Int} {rates : TMap} (avgs : TMap) {t : Tx}
    (hf : (t.inAmount : Int) ≤ bal) (hne : rates.isEmpty = false)
    (hr : rates.get t.inType ≠ 0 ∧ rates.get t.conversion ≠ 0) :
    admitSpec P h bal rates avgs t =
      if h ≥ P.act.oneWayFCT ∧ t.conversion = tFCT then .reject (-3)
      else if h ≥ P.act.oneWaySmall ∧ P.oneWaySet.contains t.conversion then .reject (-5)
      else match convert P.act.pip10 h (toInt64 t.inAmount) (rates.get t.inType) (avgs.get t.inType)
                (rates.get t.conversion) (avgs.get t.conversion) with
        | none => .dropped
        | some _ => .apply := by
  unfold admitSpec
  rw [if_neg (Int.not_lt.2 hf), if_neg (by rw [hne]; exact Bool.false_ne_true), if_neg (fun hz => hz.elim hr.1 hr.2)]

/-- destinations made one-way are refused and the refusal leaves every balance untouched -/
theorem forbidden_destination_no_effect (P : Params) (h : Nat) (e : TxEntry) (rates avgs : TMap) (s s' : DB) (c : Int)
    (hr : applyBatch P h e (some rates) (some avgs) s = .ok (.reject c) s') : s' = s :=
  applyBatch_noop hr (by intro hh; cases hh)

/-- pFCT is closed as a destination from its activation on -/
theorem pfct_one_way (P : Params) (db : DB) (h : Nat) (rates avgs : TMap) (t : Tx)
    (hc : t.isConversion P = true) (hf : (t.inAmount : Int) ≤ db.bal t.inAddr t.inType) (hne : rates.isEmpty = false)
    (hr : rates.get t.inType ≠ 0 ∧ rates.get t.conversion ≠ 0)
    (hact : h ≥ P.act.oneWayFCT) (hdst : t.conversion = tFCT) :
    verdict P db h (some rates) (some avgs) [t] = .reject (-3) := by
  rw [admission_table P db h rates avgs t hc, admitSpec_funded_rated P h avgs hf hne hr, if_pos ⟨hact, hdst⟩]

/-- the small-cap assets and PEG are closed as destinations from their activation on -/
theorem small_assets_one_way (P : Params) (db : DB) (h : Nat) (rates avgs : TMap) (t : Tx)
    (hc : t.isConversion P = true) (hf : (t.inAmount : Int) ≤ db.bal t.inAddr t.inType) (hne : rates.isEmpty = false)
    (hr : rates.get t.inType ≠ 0 ∧ rates.get t.conversion ≠ 0)
    (hnf : ¬ (h ≥ P.act.oneWayFCT ∧ t.conversion = tFCT))
    (hact : h ≥ P.act.oneWaySmall) (hdst : P.oneWaySet.contains t.conversion = true) :
    verdict P db h (some rates) (some avgs) [t] = .reject (-5) := by
  rw [admission_table P db h rates avgs t hc, admitSpec_funded_rated P h avgs hf hne hr, if_neg hnf, if_pos ⟨hact, hdst⟩]

/-- a zero rate on either side refuses the conversion -/
theorem zero_rate_rejected (P : Params) (db : DB) (h : Nat) (rates avgs : TMap) (t : Tx)
    (hc : t.isConversion P = true) (hf : (t.inAmount : Int) ≤ db.bal t.inAddr t.inType) (hne : rates.isEmpty = false)
    (hz : rates.get t.inType = 0 ∨ rates.get t.conversion = 0) :
    verdict P db h (some rates) (some avgs) [t] = .reject (-4) := by
  rw [admission_table P db h rates avgs t hc, admitSpec, if_neg (Int.not_lt.2 hf),
    if_neg (by rw [hne]; exact Bool.false_ne_true), if_pos hz]

/-- once averaging is active an unavailable average drops the conversion without any effect -/
theorem unavailable_average_dropped (P : Params) (db : DB) (h : Nat) (rates avgs : TMap) (t : Tx)
    (hc : t.isConversion P = true) (hf : (t.inAmount : Int) ≤ db.bal t.inAddr t.inType) (hne : rates.isEmpty = false)
    (hr : rates.get t.inType ≠ 0 ∧ rates.get t.conversion ≠ 0)
    (hnf : ¬ (h ≥ P.act.oneWayFCT ∧ t.conversion = tFCT))
    (hns : ¬ (h ≥ P.act.oneWaySmall ∧ P.oneWaySet.contains t.conversion = true))
    (hp : h ≥ P.act.pip10) (ha : avgs.get t.inType = 0 ∨ avgs.get t.conversion = 0) :
    verdict P db h (some rates) (some avgs) [t] = .dropped := by
  have hcv : convert P.act.pip10 h (toInt64 t.inAmount) (rates.get t.inType) (avgs.get t.inType)
      (rates.get t.conversion) (avgs.get t.conversion) = none :=
    Option.eq_none_iff_forall_ne_some.2 fun x hx =>
      have g := ((convert_eq ..).1 hx).1.2.2.2 hp
      ha.elim g.1 g.2
  rw [admission_table P db h rates avgs t hc, admitSpec_funded_rated P h avgs hf hne hr, if_neg hnf, if_neg hns, hcv]

/-- every other well-formed conversion with sufficient funds is executed -/
theorem admissible_funded_executes (P : Params) (db : DB) (h : Nat) (rates avgs : TMap) (t : Tx) (out : Int)
    (hc : t.isConversion P = true) (hf : (t.inAmount : Int) ≤ db.bal t.inAddr t.inType) (hne : rates.isEmpty = false)
    (hr : rates.get t.inType ≠ 0 ∧ rates.get t.conversion ≠ 0)
    (hnf : ¬ (h ≥ P.act.oneWayFCT ∧ t.conversion = tFCT))
    (hns : ¬ (h ≥ P.act.oneWaySmall ∧ P.oneWaySet.contains t.conversion = true))
    (hcv : convert P.act.pip10 h (toInt64 t.inAmount) (rates.get t.inType) (avgs.get t.inType)
      (rates.get t.conversion) (avgs.get t.conversion) = some out) :
    verdict P db h (some rates) (some avgs) [t] = .apply := by
  rw [admission_table P db h rates avgs t hc, admitSpec_funded_rated P h avgs hf hne hr, if_neg hnf, if_neg hns, hcv]

/-- any conversion into PEG is invalid from PegNet 2.0 on (`ValidatePegTx`) -/
theorem peg_destination_invalid (P : Params) (e : TxEntry) (v : Nat) (txs : List Tx)
    (hp : e.parsed = some (v, txs)) (t : Tx) (ht : t ∈ txs) (hpeg : t.conversion = tPEG) :
    e.validPegTx P = false := by
  unfold TxEntry.validPegTx
  rw [hp]
  show (validData P v txs && txs.all fun t => t.conversion != tPEG) = false
  rw [List.all_eq_false.2 ⟨t, ht, by rw [hpeg, bne_self_eq_false]; exact Bool.false_ne_true⟩, Bool.and_false]

/-- regenerated facts: the one-way destination set, its guard and the reject codes are what the
    model uses (`Params.oneWaySet` is filled from the same extraction by the harness) -/
theorem one_way_set_matches_source :
    Generated.oneWayNames = ["PEG", "pDCR", "pDGB", "pDOGE", "pHBAR", "pONT", "pRVN", "pBAT", "pALGO", "pBIF", "pETB",
      "pKES", "pNGN", "pRWF", "pTZS", "pUGX"] ∧
    Generated.oneWayGuard = "currentHeight >= config.OneWaySmallAssetsConversions" ∧
    (Generated.rejectInsufficient, Generated.rejectPFCTOneWay, Generated.rejectZeroRates, Generated.rejectSmallOneWay) = (-1, -3, -4, -5) ∧
    Generated.rejectMap = [("InsufficientBalanceErr", "InsufficientBalanceErrInt"), ("PFCTOneWayError", "PFCTOneWayErrorInt"),
      ("PSMALLOneWayError", "PSMALLOneWayErrorInt"), ("ZeroRatesError", "ZeroRatesErrorInt")] := ⟨rfl, rfl, rfl, rfl⟩

/-! ### "whose average is unavailable": when the node publishes an average -/

/-- the averaging cache of the node is consistent (series within the period, stored averages =
    the averages of the stored series) along every process run: attempts that commit or fail,
    killed iterations that did or did not reach the averaging call, restarts -/
theorem cache_consistent_along_every_run (P : Params) (hp : 0 < P.avgPeriod) (ch : Nat → Block) (es : List Ev) :
    CacheOK P (runEvs P ch (freshNode P) es).cache := by
  refine runEvs_inv (I := fun n => CacheOK P n.cache) (fun n e hn => ?_) es _ (cacheOK_empty P)
  have htouch : CacheOK P (touchCache P n (ch (n.mem + 1))) := (getAverages_ok P hp _ n.cache _ hn).1
  cases e with
  | attempt =>
    show CacheOK P (applyBlock P n _).1.cache
    rcases applyBlock_cache P n (ch (n.mem + 1)) with h | h
    · rw [h]; exact hn
    · rw [h]; exact htouch
  | aborted t =>
    cases t
    · exact hn
    · exact htouch
  | restart => exact cacheOK_empty P

/-- **An average is published only on enough usable quotes.** Whichever path the averaging call
    takes (cache hit, one more height, full reload), a non-zero average for `t` means: the window
    the node holds for `t` has at most `AveragePeriod` samples, at least `AverageRequired` of them
    non-zero, and the average is their mean. -/
theorem average_published_only_with_enough_quotes (P : Params) (hp : 0 < P.avgPeriod) (db : DB) (c : AvgCache)
    (height : Nat) (hc : CacheOK P c) (t : Ticker) (hne : (getAverages P db c height).2.get t ≠ 0) :
    ∃ p ∈ (getAverages P db c height).1.data, p.1 = t ∧ p.2.length ≤ P.avgPeriod ∧
      P.avgRequired ≤ nonZero p.2 ∧
      (getAverages P db c height).2.get t = (p.2.sum % 18446744073709551616) / p.2.length :=
  published_average_has_quotes P hp db c height hc t hne

/-- **… and a conversion on a thin window is not executed.** From the PIP-10 activation on, with
    the averages the node computes at `fromH`: if no series of the source asset (or none of the
    destination asset) in the node's window has `AverageRequired` non-zero quotes, an otherwise
    admissible, funded conversion is dropped — no balance changes. -/
theorem thin_window_conversion_dropped (P : Params) (hp0 : 0 < P.avgPeriod) (db cdb : DB) (c : AvgCache) (fromH h : Nat)
    (rates : TMap) (t : Tx) (hcache : CacheOK P c)
    (hc : t.isConversion P = true) (hf : (t.inAmount : Int) ≤ db.bal t.inAddr t.inType) (hne : rates.isEmpty = false)
    (hr : rates.get t.inType ≠ 0 ∧ rates.get t.conversion ≠ 0)
    (hnf : ¬ (h ≥ P.act.oneWayFCT ∧ t.conversion = tFCT))
    (hns : ¬ (h ≥ P.act.oneWaySmall ∧ P.oneWaySet.contains t.conversion = true))
    (hp : h ≥ P.act.pip10)
    (hthin : (∀ p ∈ (getAverages P cdb c fromH).1.data, p.1 = t.inType → nonZero p.2 < P.avgRequired) ∨
             (∀ p ∈ (getAverages P cdb c fromH).1.data, p.1 = t.conversion → nonZero p.2 < P.avgRequired)) :
    verdict P db h (some rates) (some (getAverages P cdb c fromH).2) [t] = .dropped := by
  -- an asset all of whose series are thin has no published average
  have thin : ∀ a, (∀ p ∈ (getAverages P cdb c fromH).1.data, p.1 = a → nonZero p.2 < P.avgRequired) →
      (getAverages P cdb c fromH).2.get a = 0 := fun a ha =>
    Decidable.byContradiction fun hx => by
      obtain ⟨p, hm, hk, _, hq, _⟩ := published_average_has_quotes P hp0 cdb c fromH hcache a hx
      exact absurd (ha p hm hk) (Nat.not_lt.2 hq)
  exact unavailable_average_dropped P db h rates _ t hc hf hne hr hnf hns hp (hthin.imp (thin _) (thin _))

/-- non-vacuity / witness, evaluated by the kernel: a window of 7 samples (one height ungraded)
    with 3 non-zero quotes of asset 3 publishes no average for it although 7 ≥ 4 samples exist,
    while asset 2 with 7 non-zero quotes gets its mean -/
def wP : Params :=
  { act := ⟨0,0,0,0,0,0,0,0,0,0,100,100,200,200,300,310,400⟩, tickerMax := 63, tickerNames := ["PEG", "pUSD", "pEUR"], oneWaySet := [],
    snapshotRate := 144, perBlockHolders := 0, perBlockDevs := 0, bankBase := 0, avgPeriod := 8, avgRequired := 4,
    syncVersion := 2, devs := [], «mint» := [], burnAddr := "b", oldBurnAddr := "o", mintAddr := "m", coinbaseAddr := "c", zeroAddr := "0" }
example :
    computeAverages wP
      [(2, [5, 5, 5, 5, 5, 5, 12]), (3, [9, 9, 0, 0, 0, 0, 9])] = [(2, 6), (3, 0)] := by
  decide


/-- the shipped schedule, regenerated from config/activations.go and fat/fat2/activations.go on every
    run, against the values this property was read with: the heights from which the one-way rules, the bank pass and the averages requirement apply. Every scenario of the harness
    runs on a compressed schedule that overwrites these constants, so nothing else would notice one of
    them moving; a moved height is a different protocol, not a rewrite. -/
theorem shipped_schedule :
    let a := Generated.activations
    Generated.activationsComplete = true ∧ a.oneWayFCT = 220346 ∧ a.convLimit = 222270 ∧ a.oneWaySmall = 274036 ∧ a.pip10 = 295190 := by
  decide

/-- the averaging window the binary ships with (node/average.go, regenerated): 288 blocks, an average needs half of them — the scenarios run with a window of 8 -/
theorem shipped_window : Generated.averagePeriod = 288 ∧ Generated.averageRequiredExpr = "AveragePeriod / 2" :=
  ⟨rfl, rfl⟩

/-- **"whose average is unavailable", on the rate table.** Along any chain applied in order whose
    averaging windows have no hole, the average the next block uses for asset `t` is unavailable (0)
    exactly when the height window ending at the last rated height before the block holds fewer than
    `AverageRequired` non-zero quotes of `t` (or their mean rounds to 0); otherwise it is the mean of
    the window's quotes. So which conversions the averages requirement forbids at a block is a
    function of the committed rate table alone. -/
theorem average_available_iff_window_has_quotes (P : Params) (hp : 0 < P.avgPeriod) (bs : List Block) (b : Block)
    (hw : WholeChain P (freshNode P) (bs ++ [b])) (t : Ticker) :
    let n := runBlocks P (freshNode P) bs
    let w := window P n.db (n.db.mostRecentRatesBefore b.height).2 t
    (getAverages P { n.db with avgTouched := false } n.cache
        (({ n.db with avgTouched := false } : DB).mostRecentRatesBefore b.height).2).2.get t
      = if nonZero w < P.avgRequired then 0 else (w.sum % 18446744073709551616) / w.length := by
  obtain ⟨hg, hw'⟩ := wholeChain_good P hp bs b _ (cacheGood_fresh P) hw
  have := pricing_average_is_window_mean P hp _ b hg hw' t
  unfold pricingAvgs at this
  dsimp only
  rw [this, avgOf_spec P _ (window_length P _ _ t)]
end Pegnet.C13

#print axioms Pegnet.C13.admission_table
#print axioms Pegnet.C13.forbidden_destination_no_effect
#print axioms Pegnet.C13.pfct_one_way
#print axioms Pegnet.C13.small_assets_one_way
#print axioms Pegnet.C13.zero_rate_rejected
#print axioms Pegnet.C13.unavailable_average_dropped
#print axioms Pegnet.C13.admissible_funded_executes
#print axioms Pegnet.C13.peg_destination_invalid
#print axioms Pegnet.C13.one_way_set_matches_source
#print axioms Pegnet.C13.cache_consistent_along_every_run
#print axioms Pegnet.C13.average_published_only_with_enough_quotes
#print axioms Pegnet.C13.thin_window_conversion_dropped
#print axioms Pegnet.C13.shipped_schedule
#print axioms Pegnet.C13.shipped_window
#print axioms Pegnet.C13.average_available_iff_window_has_quotes

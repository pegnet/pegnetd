import Proofs.Process
import Pegnet.Generated.Facts
/-
  C10 — Fault transparency.
  The model separates call sites that PROPAGATE an error (the block transaction fails as a whole:
  nothing is committed, the block is retried) from call sites that SWALLOW it (`M.swallow`:
  execution continues and the partial effects stay in the transaction). The set of swallowing
  sites is regenerated from the source on every run.
-/
namespace Pegnet.C10
open Pegnet

/-- a propagated failure is transparent: nothing is committed, so a retry of the same block
    starts from exactly the same database -/
theorem propagated_failure_is_transparent (P : Params) (n : Node) (b : Block) (e : Failure)
    (hf : (applyBlock P n b).2 = some e) : (applyBlock P n b).1.db = n.db :=
  applyBlock_failed hf

/-- retrying is deterministic: the outcome of a block is a function of the committed database,
    the in-memory cache and the block — there is no hidden state a failed attempt could leave
    behind other than the averaging cache (see C09) -/
theorem retry_same_outcome (P : Params) (n n' : Node) (b : Block)
    (hdb : n'.db = n.db) (hc : n'.cache = n.cache) :
    (applyBlock P n' b).1.db = (applyBlock P n b).1.db ∧ (applyBlock P n' b).2 = (applyBlock P n b).2 :=
  -- the two nodes differ in the in-memory height only, which the iteration does not read
  applyBlock_congr hdb fun _ => by unfold pricingAvgs; rw [hdb, hc]

/-- a swallowed failure keeps the partial effects it made before failing (this is what makes the
    burn-address zeroing non-transparent; the developer payouts and the status updates propagate
    their errors since fixes 6e0a94f and 805da50) -/
theorem swallow_keeps_partial_effects {σ} (m : M σ Unit) (s s' : σ) (e : Failure)
    (h : m s = .fail e s') : M.swallow m s = .ok false s' := by
  unfold M.swallow; rw [h]

/-- Regenerated from /repo: the calls of the sync path whose error result is discarded, the
    `if err != nil` blocks that only log, and the blank-assigned errors are exactly the known
    ones. A new swallowed error anywhere under DBlockSync breaks this obligation. -/
theorem swallow_sites_are_the_known_ones :
    Generated.discardedErrors =
      ["node/sync.go:DBlockSync:NullifyBurnAddress", "node/sync.go:DBlockSync:NullifyBurnAddress"] ∧
    Generated.logOnlyErrors =
      ["node/opr.go:Grade:err != nil", "node/spr.go:GradeS:err != nil",
       "node/sync.go:NullifyMintedTokens:err != nil",
       "node/sync.go:NullifyBurnAddress:err != nil", "node/sync.go:NullifyBurnAddress:err != nil",
       "node/sync.go:NullifyBurnAddress:err != nil", "node/sync.go:NullifyBurnAddress:err != nil",
       "node/sync.go:recordBatch:err != nil"] ∧
    Generated.blankAssignedErrors =
      ["node/conversions/conversionlimit.go:Refund:Convert", "node/conversions/conversionlimit.go:Refund:Convert",
       "node/sync.go:recordPegnetRequests:Convert"] :=
  ⟨rfl, rfl, rfl⟩

/-- **`faults_transparent` (DESIGN §7) for propagated faults, every height, every chain, every finite fault
    plan.** A run of the daemon in which any number of iterations are cut short by a failed
    upstream request or SQL statement (the error is propagated: the block transaction is rolled
    back, the in-memory cache may already have been advanced) ends in exactly the database and
    sync height of the fault-free run. The retry finds the cache at the height it asks for and is
    handed the same averages (`getAverages_idem`). What this does NOT cover are the call sites
    that swallow an error (`swallow_sites_are_the_known_ones`): there the iteration is not cut
    short, it commits with part of its effects missing — the known findings of this property. -/
theorem propagated_faults_transparent (P : Params) (ch : Nat → Block) (n : Node) (es : List Ev)
    (hv : ValidRun P ch n es) :
    (runEvs P ch n es).db = (runEvs P ch n (es.filter (fun e => !e.isAborted))).db ∧
    (runEvs P ch n es).mem = (runEvs P ch n (es.filter (fun e => !e.isAborted))).mem :=
  aborted_erasable_all P ch es n n (.refl n) hv

/-- asking the averaging cache twice for the same height changes nothing the second time -/
theorem averages_idempotent (P : Params) (db : DB) (c : AvgCache) (h : Nat) :
    getAverages P db (getAverages P db c h).1 h = getAverages P db c h := getAverages_idem P db c h

/-- non-vacuity: a fault plan with two failed iterations of the same block -/
example : [Ev.aborted false, .aborted true, .attempt].filter (fun e => !e.isAborted) = [.attempt] := rfl

/-- Regenerated from /repo on every run: the functions of `node` / `node/pegnet` that iterate a result
    set (`for rows.Next()`) without ever asking `rows.Err()` — where a fetch that fails (lock timeout,
    I/O error: go-sqlite3 reports the first step's error at `Next`, not at `Query`) ends the loop
    silently with a truncated result. After the repair 8c83015 they are exactly the five readers only
    the API calls; every reader on the sync path returns the error, so the model's atomic reads
    (a read either fails the block or returns everything) describe it. -/
theorem unchecked_row_loops_are_api_only :
    Generated.uncheckedRowLoops =
      ["node/pegnet/addresses.go:SelectAllBalances", "node/pegnet/addresses.go:SelectRichList",
       "node/pegnet/txhistory_util.go:turnRowsIntoHistoryTransactions", "node/pegnet/winners.go:SelectGraded",
       "node/pegnet/winners.go:SelectMinerDominance"] := rfl
end Pegnet.C10

#print axioms Pegnet.C10.propagated_failure_is_transparent
#print axioms Pegnet.C10.retry_same_outcome
#print axioms Pegnet.C10.swallow_keeps_partial_effects
#print axioms Pegnet.C10.swallow_sites_are_the_known_ones
#print axioms Pegnet.C10.propagated_faults_transparent
#print axioms Pegnet.C10.averages_idempotent
#print axioms Pegnet.C10.unchecked_row_loops_are_api_only

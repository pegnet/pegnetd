import Proofs.Arith
import Proofs.Holding
import Pegnet.Generated.Facts
import Proofs.RestartAvg
/-
  C07 — Conversions execute later, at the next graded block's rates, exactly.
  Property theorems only (helper lemmas are in Proofs/).
-/
namespace Pegnet.C07
open Pegnet

/-- `Convert` succeeds exactly under its guards, and then returns
    ⌊amount × source / destination⌋, which fits in an int64. -/
theorem convert_exact (pip10 h : Nat) (amt : Int) (fr fa tr ta : Nat) (x : Int) :
    convert pip10 h amt fr fa tr ta = some x ↔
      (0 ≤ amt ∧ fr ≠ 0 ∧ tr ≠ 0 ∧ (h ≥ pip10 → fa ≠ 0 ∧ ta ≠ 0)) ∧
      x = amt * (srcRate pip10 h fr fa : Int) / (dstRate pip10 h tr ta : Int) ∧ x ≤ (maxInt64 : Int) :=
  convert_eq pip10 h amt fr fa tr ta x

/-- the result is the floor of the exact quotient: x·dst ≤ amt·src < (x+1)·dst -/
theorem convert_is_floor {pip10 h : Nat} {amt : Int} {fr fa tr ta : Nat} {x : Int}
    (hc : convert pip10 h amt fr fa tr ta = some x) :
    x * (dstRate pip10 h tr ta : Int) ≤ amt * (srcRate pip10 h fr fa : Int) ∧
    amt * (srcRate pip10 h fr fa : Int) < (x + 1) * (dstRate pip10 h tr ta : Int) :=
  convert_floor hc

/-- once averaging is active the source rate is min(spot, average), the destination rate
    max(spot, average); before, the spot rates. -/
theorem rates_used (pip10 h fr fa tr ta : Nat) :
    (h ≥ pip10 → srcRate pip10 h fr fa = min fr fa ∧ dstRate pip10 h tr ta = max tr ta) ∧
    (h < pip10 → srcRate pip10 h fr fa = fr ∧ dstRate pip10 h tr ta = tr) :=
  ⟨fun hp => ⟨by rw [srcRate_eq, if_pos hp], by rw [dstRate_eq, if_pos hp]⟩,
   fun hp => ⟨by rw [srcRate_eq, if_neg (Nat.not_le.2 hp)], by rw [dstRate_eq, if_neg (Nat.not_le.2 hp)]⟩⟩

/-- a conversion never yields more USD value (at spot rates) than was put in -/
theorem convert_value_nonincreasing {pip10 h : Nat} {amt : Int} {fr fa tr ta : Nat} {x : Int}
    (hc : convert pip10 h amt fr fa tr ta = some x) :
    x * (tr : Int) ≤ amt * (fr : Int) := convert_value_le hc

/-- every way `Convert` can fail -/
theorem convert_rejects (pip10 h : Nat) (amt : Int) (fr fa tr ta : Nat) :
    convert pip10 h amt fr fa tr ta = none ↔
      (amt < 0 ∨ fr = 0 ∨ tr = 0 ∨ (h ≥ pip10 ∧ (fa = 0 ∨ ta = 0)) ∨
       amt * (srcRate pip10 h fr fa : Int) / (dstRate pip10 h tr ta : Int) > (maxInt64 : Int)) := by
  rw [Option.eq_none_iff_forall_ne_some]
  constructor
  · -- no guard fails and the quotient fits: `Convert` returns the quotient
    intro hall
    refine Decidable.by_contra fun hn => hall _ ((convert_eq ..).2 ⟨⟨?_, ?_, ?_, fun hp => ⟨?_, ?_⟩⟩, rfl, ?_⟩)
    · exact Int.not_lt.1 fun a => hn (.inl a)
    · exact fun a => hn (.inr (.inl a))
    · exact fun a => hn (.inr (.inr (.inl a)))
    · exact fun a => hn (.inr (.inr (.inr (.inl ⟨hp, .inl a⟩))))
    · exact fun a => hn (.inr (.inr (.inr (.inl ⟨hp, .inr a⟩))))
    · exact Int.not_lt.1 fun a => hn (.inr (.inr (.inr (.inr a))))
  · intro hh x hx
    obtain ⟨g, e, hle⟩ := (convert_eq ..).1 hx
    rcases hh with a | a | a | a | a
    · exact Int.not_lt.2 g.1 a
    · exact g.2.1 a
    · exact g.2.2.1 a
    · exact a.2.elim (g.2.2.2 a.1).1 (g.2.2.2 a.1).2
    · exact Int.not_lt.2 (e ▸ hle) a

/-! non-vacuity: concrete conversions meeting the hypotheses -/
example : convert 100 5 1000 200 0 300 0 = some 666 := by decide
example : convert 100 150 1000 200 150 300 400 = some 375 := by decide   -- PIP-10: min(200,150)/max(300,400)
example : convert 100 5 9223372036854775807 2 0 1 0 = none := by decide  -- overflow

/-- "…at the next graded block": the first rated block after a conversion was put in holding
    walks every height since the previous rated block, so the conversion is dealt with in THAT
    block (status written / replay mark / not computable) — it cannot be passed over and picked
    up by a later one. Block-level statement, proved in `Proofs/Holding.lean`. -/
theorem executes_at_first_rated_block {P : Params} {c : DB} {b : Block} {avgs : TMap} {s' : DB}
    (hpos : 0 < b.height) (hrun : blockTx P c b avgs c = .ok () s') (htx : b.height ≥ P.act.txConv) :
    (∃ s1 s2 st, gradeAndRates P c b s1 = .ok st s2 ∧ st ≠ .cont true) ∨
    ∃ rates, ∀ row ∈ c.holding, (c.mostRecentRatesBefore b.height).2 ≤ row.height → row.height < b.height →
      Considered P b.height rates avgs c s' row.entry :=
  block_considers_held hpos hrun htx

/-! ### "averages taken at the last rated height before the executing block" -/

/-- `SelectMostRecentRatesBeforeHeight(h)`, whose height is where the averages are taken, is the
    greatest rated height strictly below `h`: it is rated, below `h`, and nothing rated lies
    between it and `h`. -/
theorem last_rated_height_is_greatest_below (db : DB) (h : Nat) (r : RateRow) (hr : r ∈ db.rates) (hlt : r.height < h) :
    (db.mostRecentRatesBefore h).2 < h ∧ (∃ r' ∈ db.rates, r'.height = (db.mostRecentRatesBefore h).2) ∧
      ∀ r' ∈ db.rates, r'.height < h → r'.height ≤ (db.mostRecentRatesBefore h).2 :=
  mostRecentRatesBefore_spec db h r hr hlt

/-- One iteration of the sync loop prices the block with the averages `GetPegNetRateAverages`
    gives for THAT height on the committed database, starting from the node's cache — and with
    nothing else: the block transaction is the function `blockTx` of exactly these averages. -/
theorem block_priced_with_averages_at_last_rated_height (P : Params) (n : Node) (b : Block) :
    let c := { n.db with avgTouched := false }
    let avgs := (getAverages P c n.cache (c.mostRecentRatesBefore b.height).2).2
    (applyBlock P n b).2 = (match blockTx P c b avgs c with | .ok _ _ => none | .fail e _ => some e) := by
  unfold applyBlock
  dsimp only
  generalize blockTx P _ b _ _ = r
  cases r <;> rfl

/-- and whenever the node's cache moves, it moves to that height -/
theorem cache_height_after_block (P : Params) (n : Node) (b : Block) :
    (applyBlock P n b).1.cache = n.cache ∨
    (applyBlock P n b).1.cache.height = (({ n.db with avgTouched := false } : DB).mostRecentRatesBefore b.height).2 := by
  rcases applyBlock_cache P n b with h | h
  · exact Or.inl h
  · right; rw [h]; exact getAverages_height P _ _ _


/-- the shipped schedule, regenerated from config/activations.go and fat/fat2/activations.go on every
    run, against the values this property was read with: the height from which conversions are priced against the rolling averages. Every scenario of the harness
    runs on a compressed schedule that overwrites these constants, so nothing else would notice one of
    them moving; a moved height is a different protocol, not a rewrite. -/
theorem shipped_schedule :
    let a := Generated.activations
    Generated.activationsComplete = true ∧ a.pip10 = 295190 := by
  decide

/-- **"average" means the mean over the height window.** Along any chain applied in order whose
    averaging windows have no hole, the average the next block's conversions are priced with
    (min(spot, ·) on the source, max(spot, ·) on the destination) is, for every asset, the mean of the
    quotes the rate table holds for it at the heights of the window ending at the last rated height
    before the block — 0 (unavailable) when fewer than `AverageRequired` of them are non-zero. It does
    not depend on which of the three paths of `GetPegNetRateAverages` produced it, nor on anything
    else the process has seen. -/
theorem priced_with_the_window_mean (P : Params) (hp : 0 < P.avgPeriod) (bs : List Block) (b : Block)
    (hw : WholeChain P (freshNode P) (bs ++ [b])) (t : Ticker) :
    let n := runBlocks P (freshNode P) bs
    (getAverages P { n.db with avgTouched := false } n.cache
        (({ n.db with avgTouched := false } : DB).mostRecentRatesBefore b.height).2).2.get t
      = avgOf P (window P n.db (n.db.mostRecentRatesBefore b.height).2 t) := by
  obtain ⟨hg, hw'⟩ := wholeChain_good P hp bs b _ (cacheGood_fresh P) hw
  exact pricing_average_is_window_mean P hp _ b hg hw' t
end Pegnet.C07

#print axioms Pegnet.C07.convert_exact
#print axioms Pegnet.C07.convert_is_floor
#print axioms Pegnet.C07.rates_used
#print axioms Pegnet.C07.convert_value_nonincreasing
#print axioms Pegnet.C07.convert_rejects
#print axioms Pegnet.C07.executes_at_first_rated_block
#print axioms Pegnet.C07.last_rated_height_is_greatest_below
#print axioms Pegnet.C07.block_priced_with_averages_at_last_rated_height
#print axioms Pegnet.C07.cache_height_after_block
#print axioms Pegnet.C07.shipped_schedule
#print axioms Pegnet.C07.priced_with_the_window_mean

import Proofs.OrderFree
import Proofs.Chain
import Pegnet.Generated.Facts
/-
  C01 — Deterministic replay. Lean functions are deterministic; every place where the Go code's
  result could depend on something other than the chain (map iteration order, an unstable sort,
  the wall clock) is an explicit parameter of the model or is shown not to matter.
-/
namespace Pegnet.C01
open Pegnet

/-- the model is a function: the same chain from the same state gives the same ledger -/
theorem replay_is_a_function (P : Params) (n : Node) (chain : List Block) :
    ∀ r₁ r₂, r₁ = runBlocks P n chain → r₂ = runBlocks P n chain → r₁.db = r₂.db := by
  intro r₁ r₂ h₁ h₂; rw [h₁, h₂]

/-- Regenerated: the places in the sync path that range over a Go map, sort, or read the clock
    are exactly the known ones. Each is handled below; a new one breaks this obligation. -/
theorem nondeterminism_sites :
    Generated.mapRanges =
      ["node/average.go:GetPegNetRateAverages:ratesOverPeriod", "node/average.go:GetPegNetRateAverages:rates",
       "node/average.go:GetPegNetRateAverages:ratesOverPeriod", "node/average.go:GetPegNetRateAverages:ratesOverPeriod",
       "node/conversions/conversionlimit.go:Payouts:s.ConversionRequests", "node/conversions/conversionlimit.go:Payouts:s.ConversionRequests",
       "node/conversions/conversionlimit.go:Payouts:s.ConversionRequests",
       "node/pegnet/txhistory.go:InsertStakingCoinbase:payouts",
       "node/sync.go:SnapshotPayouts:staked", "node/sync.go:SnapshotPayouts:set.Payouts()",
       "node/sync.go:recordPegnetRequests:pegPayouts"] ∧
    Generated.sorts = ["node/sync.go:SnapshotPayouts:sort.Slice"] ∧
    Generated.timeNow =
      ["node/pegnet/admin.go:markHeightSyncedVersion:time.Now", "node/sync.go:DBlockSync:time.Now", "node/sync.go:DBlockSync:time.Now",
       "node/sync.go:DBlockSync:time.Now", "node/sync.go:SnapshotPayouts:time.Now", "node/sync.go:DevelopersPayouts:time.Now"] :=
  ⟨rfl, rfl, rfl⟩

/-- `Payouts` ranges over its request map three times. The results do not depend on the order:
    the total and the maximum are order-free … -/
theorem sum_perm {l₁ l₂ : List (TxKey × Nat)} (h : l₁.Perm l₂) : sumReq l₁ = sumReq l₂ := sumReq_perm h

theorem maxReq_perm {l₁ l₂ : List (TxKey × Nat)} (h : l₁.Perm l₂) : maxReq l₁ = maxReq l₂ :=
  Pegnet.maxReq_perm h

/-- … and each request's share depends only on its own amount, the bank and the total. -/
theorem share_order_free (bank : Nat) {l₁ l₂ : List (TxKey × Nat)} (h : l₁.Perm l₂) (r : TxKey × Nat) :
    payoutBig r.2 bank (sumReq l₁) = payoutBig r.2 bank (sumReq l₂) := by rw [sum_perm h]

/-- The staking payout is the exception: the list index becomes the txid, the list comes out of
    a map and is sorted by stake only with an unstable sort, so two stakers with EQUAL stake can
    swap txid and (when they are the top stakers) the dust. Witness: two different orders that
    the Go code can both produce give different payouts to the same address. -/
theorem staking_tie_is_order_dependent :
    let l := [("addrA", 5), ("addrB", 5)]
    let reqs := fun (ord : List (Addr × Nat)) => ord.zipIdx.map fun p => (({ idx := p.2, hash := "00" } : TxKey), p.1.2)
    stakesAscending (orderStakes ["addrA", "addrB"] l) = true ∧ stakesAscending (orderStakes ["addrB", "addrA"] l) = true ∧
    ((orderStakes ["addrA", "addrB"] l).zip (payouts 9 (reqs (orderStakes ["addrA", "addrB"] l)))).map (fun p => (p.1.1, p.2.2)) =
      [("addrA", 5), ("addrB", 4)] ∧
    ((orderStakes ["addrB", "addrA"] l).zip (payouts 9 (reqs (orderStakes ["addrB", "addrA"] l)))).map (fun p => (p.1.1, p.2.2)) =
      [("addrB", 5), ("addrA", 4)] := by
  decide

/-- `replay_deterministic_partial` (DESIGN §7): with an order oracle that is not a valid ascending
    permutation the model falls back to its canonical order; in particular, for one staker (no
    ties possible) the oracle is irrelevant. -/
theorem single_staker_order_irrelevant (ord : List Addr) (x : Addr × Nat) :
    orderStakes ord [x] = [x] := by
  fun_cases orderStakes ord [x]
  case case1 r hc =>
    simp only [Bool.and_eq_true, beq_iff_eq] at hc
    obtain ⟨y, hy⟩ := List.length_eq_one_iff.1 hc.1.1.2
    -- looking the oracle's names up in `[x]` finds nothing but `x`
    obtain ⟨a, _, ha⟩ := List.mem_filterMap.1 (hy ▸ List.mem_singleton_self y : y ∈ r)
    rw [hy, List.mem_singleton.1 (List.mem_of_find?_eq_some ha)]
  case case2 => rfl

/-- **Holder staking payouts do not depend on map iteration order.** `SnapshotPayouts` collects
    the stakers by ranging over a Go map and sorts them by (stake, address) — fix 5b8087b; the
    sorted slice, whose indices become the payout txids, is the same for every order in which the
    map can be iterated (every permutation of the stakers). Before the fix this was false:
    `staking_tie_is_order_dependent`. -/
theorem staking_order_free {l₁ l₂ : List (Addr × Nat)} (h : l₁.Perm l₂) :
    orderStakes [] l₁ = orderStakes [] l₂ := by
  have e : ∀ l : List (Addr × Nat), orderStakes [] l = sortStakes l := by
    intro l
    cases l with
    | nil => rfl
    | cons x xs => rfl
  rw [e, e]
  exact sortStakes_order_free h

/-- **`ConversionSupplySet.Payouts` does not depend on map iteration order**: the amount paid to
    every txid (including who receives the rounding dust: the highest request, ties to the
    smallest txid in `SortTxIDS` order) is the same for every order of the request map. -/
theorem payouts_order_free (bank : Nat) {l₁ l₂ : List (TxKey × Nat)} (h : l₁.Perm l₂) (k : TxKey) (v : Nat) :
    (k, v) ∈ payouts bank l₁ ↔ (k, v) ∈ payouts bank l₂ :=
  (Pegnet.payouts_order_free bank h).mem_iff

/-- the dust receiver itself: the least txid among the highest requests is order-free -/
theorem dust_receiver_order_free {l₁ l₂ : List TxKey} (h : l₁.Perm l₂) : minKey l₁ = minKey l₂ := minKey_perm h

/-- non-vacuity: two iteration orders of one request set with tied top requests, total above the
    bank — same payouts, the dust goes to the smaller txid in both -/
example :
    payouts 100 [(⟨0, "bb"⟩, 70), (⟨0, "aa"⟩, 70), (⟨1, "aa"⟩, 10)] = [(⟨0, "bb"⟩, 46), (⟨0, "aa"⟩, 48), (⟨1, "aa"⟩, 6)] ∧
    payouts 100 [(⟨1, "aa"⟩, 10), (⟨0, "aa"⟩, 70), (⟨0, "bb"⟩, 70)] = [(⟨1, "aa"⟩, 6), (⟨0, "aa"⟩, 48), (⟨0, "bb"⟩, 46)] := by
  decide

end Pegnet.C01

#print axioms Pegnet.C01.replay_is_a_function
#print axioms Pegnet.C01.nondeterminism_sites
#print axioms Pegnet.C01.sum_perm
#print axioms Pegnet.C01.maxReq_perm
#print axioms Pegnet.C01.share_order_free
#print axioms Pegnet.C01.staking_tie_is_order_dependent
#print axioms Pegnet.C01.single_staker_order_irrelevant
#print axioms Pegnet.C01.staking_order_free
#print axioms Pegnet.C01.payouts_order_free
#print axioms Pegnet.C01.dust_receiver_order_free

import Proofs.Moves
import Pegnet.Generated.Facts
/-
  C11 — Grading rewards and FCT burns are issued exactly as decided, once.
  The grading algorithm itself is the external library (its answer is an arbitrary `OprGraded` /
  `SprGraded` value in the model); these theorems are about pegnetd's glue.
-/
namespace Pegnet.C11
open Pegnet

/-- the grader version is chosen by activation height exactly as the source's ladders say -/
theorem version_ladders_match_source :
    Generated.oprLadderBase = some 1 ∧
    Generated.oprLadderRungs = [("GradingV2Activation", 2), ("PEGFreeFloatingPriceActivation", 3), ("V4OPRUpdate", 4), ("V20HeightActivation", 5)] ∧
    Generated.sprLadderBase = some 5 ∧
    Generated.sprLadderRungs = [("V20HeightActivation", 5), ("SprSignatureActivation", 6), ("V202EnhanceActivation", 7)] :=
  ⟨rfl, rfl, rfl, rfl⟩

theorem opr_version_by_height (P : Params) (h : Nat)
    (ho : P.act.gradingV2 ≤ P.act.pegFloat ∧ P.act.pegFloat ≤ P.act.v4 ∧ P.act.v4 ≤ P.act.v20) :
    graderVersionOPR P h =
      if h < P.act.gradingV2 then 1 else if h < P.act.pegFloat then 2 else if h < P.act.v4 then 3
      else if h < P.act.v20 then 4 else 5 := by
  unfold graderVersionOPR
  grind

/-- blocks without an OPR eblock, or whose graded block has no winners, pay nothing -/
theorem no_winners_no_reward (P : Params) (b : Block) (s : DB)
    (h : b.opr = .absent ∨ (∃ w, b.opr = .err w) ∨ ∃ g, b.opr = .graded g ∧ g.winners = []) :
    oprRewardPhase P b s = .ok () s := by
  unfold oprRewardPhase
  rcases h with h | ⟨w, h⟩ | ⟨g, h, hw⟩
  · rw [h]; rfl
  · rw [h]; rfl
  · rw [h]; simp only; unfold applyGradedOPR; rw [hw]; rfl

/-- a winning record whose payout address does not parse is skipped (it pays nothing and the
    remaining winners are still paid) -/
theorem unparsable_address_skipped (P : Params) (oh ts : Int) (w : OprW) (rest : List OprW) (hw : w.addr = none) :
    applyGradedOPR P oh ts (w :: rest) = applyGradedOPR P oh ts rest := by
  unfold applyGradedOPR
  funext s
  simp only [M.forEach, hw]
  rfl

/-- each winner with a valid address is credited exactly `Payout()` in PEG and gets one coinbase
    history row; nothing else is written for it -/
theorem winner_paid_exactly (P : Params) (oh ts : Int) (w : OprW) (a : Addr) (rest : List OprW) (hw : w.addr = some a) :
    applyGradedOPR P oh ts (w :: rest) =
      (do addBal P a tPEG w.payout.toNat
          insertHistBatch { hash := w.entryhash, height := oh, blockorder := 0, ts := ts, executed := oh }
          insertHistTx { hash := w.entryhash, txIndex := 0, action := 3, fromAddr := a, fromAsset := "", fromAmount := 0,
                         toAsset := "PEG", toAmount := w.payout, outputs := "" }
          insertLookup { hash := w.entryhash, txIndex := 0, addr := a }) >>= fun _ => applyGradedOPR P oh ts rest := by
  unfold applyGradedOPR
  funext s
  simp only [M.forEach, hw]
  rfl

/-- staking (SPR) rewards exist only from PegNet 2.0 on -/
theorem spr_rewards_only_from_v20 (P : Params) (b : Block) (s : DB) (h : b.height < P.act.v20) :
    sprRewardPhase P b s = .ok () s := by
  unfold sprRewardPhase
  have : ¬ b.height ≥ P.act.v20 := by omega
  simp [this]

/-- only records whose declared staker id is among the top-100 PEG holders of the COMMITTED state
    are handed to the staking grader -/
theorem spr_only_top100 (db : DB) (entries : List (Option Addr)) (idx : List Nat) (h : sprPass db entries = some idx) :
    ∀ i ∈ idx, ∃ a, (entries.zipIdx.any fun p => p.2 == i && p.1 == some a) = true ∧ a ∈ db.top100 :=
  sprPass_some h

/-- the top-100 list has at most 100 members, all with a positive PEG balance -/
theorem top100_bounded (db : DB) : db.top100.length ≤ 100 := by
  unfold DB.top100
  simp only [List.length_map, List.length_take]
  omega

/-- FCT burns: exactly the factoid transactions with one FCT input, no FCT output and one EC
    output of amount zero to the burn address are burns, of the input's amount, by the input's
    address -/
theorem burn_shape (rcd : Addr) (f : FctTx) (inp : Addr × Nat) :
    burnOf rcd f = some inp ↔
      f.fctInputs = [inp] ∧ f.nFctOutputs = 0 ∧ ∃ out, f.ecOutputs = [out] ∧ out.1 = rcd ∧ out.2 = 0 := by
  constructor
  · fun_cases burnOf rcd f
    case case4 out i hf he h1 h2 h3 =>
      rintro ⟨⟩
      exact ⟨hf, Nat.eq_zero_of_not_pos h1, out, he, by simpa using h2, by simpa using h3⟩
    -- of the function's own cases only the fourth returns something
    all_goals nofun
  · rintro ⟨hf, hn, out, he, h1, h2⟩
    unfold burnOf
    rw [he, hf]
    simp [hn, h1, h2]

/-- anything else in a factoid block credits nothing -/
theorem non_burn_credits_nothing (P : Params) (h : Nat) (rcd : Addr) (f : FctTx) (s : DB)
    (hb : burnOf rcd f = none) : applyFct P h rcd f s = .ok () s := by
  unfold applyFct; rw [hb]; rfl

/-- a burn credits exactly the burned amount of pFCT to the burning address, with one history row -/
theorem burn_credits_exactly (P : Params) (h : Nat) (rcd : Addr) (f : FctTx) (inp : Addr × Nat)
    (hb : burnOf rcd f = some inp) :
    applyFct P h rcd f = (do
      addBal P inp.1 tFCT inp.2
      insertHistBatch { hash := f.txid, height := h, blockorder := -1, ts := f.ts, executed := h }
      insertHistTx { hash := f.txid, txIndex := 0, action := 4, fromAddr := inp.1, fromAsset := "FCT", fromAmount := inp.2,
                     toAsset := "pFCT", toAmount := inp.2, outputs := "" }
      insertLookup { hash := f.txid, txIndex := 0, addr := inp.1 }) := by
  unfold applyFct; rw [hb]

/-- burns are applied only before PegNet 2.0 -/
theorem burns_only_before_v20 (P : Params) (b : Block) (hh : ¬ b.height < P.act.v20) :
    rewardPhase P b = (do oprRewardPhase P b; sprRewardPhase P b; devRewardPhase P b) := by
  unfold rewardPhase
  simp [hh]

/-- **Rewards are issued exactly as decided, to the payout address named, and to nobody else**:
    whatever list of winners the grader returns, applying it changes — for every address and every
    asset — only the PEG balance of the addresses the winning records name, by the sum of the
    payouts of the records naming that address; records whose address does not parse pay nothing
    (`oprCredit` / `sprCredit` filter on the parsed address). -/
theorem opr_rewards_exact (P : Params) (oh ts : Int) (ws : List OprW) (s : DB) :
    Outcome (applyGradedOPR P oh ts ws s)
      (fun _ s' => ∀ a x, s'.bal a x = s.bal a x + (if x = tPEG then oprCredit a ws else 0)) :=
  oprRewards_exact P oh ts ws s

theorem spr_rewards_exact (P : Params) (oh ts : Int) (ws : List SprW) (s : DB) :
    Outcome (applyGradedSPR P oh ts ws s)
      (fun _ s' => ∀ a x, s'.bal a x = s.bal a x + (if x = tPEG then sprCredit a ws else 0)) :=
  sprRewards_exact P oh ts ws s

/-- **FCT burns, for every address and asset**: before 2.0 a factoid block credits exactly the
    burned amount of each transaction of burn shape (one FCT input, no FCT output, one zero-amount
    EC output to the burn RCD) to its input address in pFCT — nothing for any other shape, nothing
    to anybody else, nothing in any other asset. -/
theorem fct_burns_credit_exactly (P : Params) (h : Nat) (burnRCD : Addr) (fcts : List FctTx) (s : DB) :
    Outcome (applyFactoidBlock P h burnRCD fcts s)
      (fun _ s' => ∀ a x, s'.bal a x = s.bal a x + (fcts.map (fun f => burnDelta burnRCD f a x)).sum) :=
  applyFactoidBlock_exact P h burnRCD fcts s

/-- a factoid transaction that misses the burn shape in any respect credits nothing -/
theorem non_burn_shape_credits_nothing (burnRCD : Addr) (f : FctTx) (hb : burnOf burnRCD f = none) (a : Addr) (x : Ticker) :
    burnDelta burnRCD f a x = 0 := by
  unfold burnDelta; rw [hb]

/-- the shipped schedule, regenerated from config/activations.go and fat/fat2/activations.go on every
    run, against the values this property was read with: the heights at which the grading version, the miner set, staking records and their signatures change. Every scenario of the harness
    runs on a compressed schedule that overwrites these constants, so nothing else would notice one of
    them moving; a moved height is a different protocol, not a rewrite. -/
theorem shipped_schedule :
    let a := Generated.activations
    Generated.activationsComplete = true ∧ a.gradingV2 = 210330 ∧ a.v4 = 231620 ∧ a.v20 = 258796 ∧ a.sprSig = 260118 := by
  decide
end Pegnet.C11

#print axioms Pegnet.C11.version_ladders_match_source
#print axioms Pegnet.C11.opr_version_by_height
#print axioms Pegnet.C11.no_winners_no_reward
#print axioms Pegnet.C11.unparsable_address_skipped
#print axioms Pegnet.C11.winner_paid_exactly
#print axioms Pegnet.C11.spr_rewards_only_from_v20
#print axioms Pegnet.C11.spr_only_top100
#print axioms Pegnet.C11.top100_bounded
#print axioms Pegnet.C11.burn_shape
#print axioms Pegnet.C11.non_burn_credits_nothing
#print axioms Pegnet.C11.burn_credits_exactly
#print axioms Pegnet.C11.burns_only_before_v20
#print axioms Pegnet.C11.opr_rewards_exact
#print axioms Pegnet.C11.spr_rewards_exact
#print axioms Pegnet.C11.fct_burns_credit_exactly
#print axioms Pegnet.C11.non_burn_shape_credits_nothing
#print axioms Pegnet.C11.shipped_schedule


import Pegnet.Generated.Facts
import Proofs.Auth
/-
  C05 — Spend authorization.
  Signature checking itself (fat103 / ed25519 / secp256k1) is outside the model: an entry arrives
  with the two verdict bits the real library gives under the flag sets R_RCD1 and R_RCD1|R_RCDe.
  The theorems are about what pegnetd does with them.
-/
namespace Pegnet.C05
open Pegnet

/-- An entry that fails validation at the block's height has no effect at all when it arrives. -/
theorem invalid_entry_inert (P : Params) (h : Nat) (keymr : String) (bo : Nat) (e : TxEntry) (s : DB)
    (hinv : e.validAt P h = false) : applyTxEntry P h keymr bo e s = .ok () s :=
  applyTxEntry_skip_invalid hinv

/-- …and a held batch that no longer validates at the executing height is not executed: only its
    status becomes −2; balances and relation rows are untouched. -/
theorem held_revalidated (P : Params) (h : Nat) (rates avgs : TMap) (e : TxEntry) (s s' : DB) (j : Bool)
    (hinv : e.validAt P h = false) (hr : applyHeld P h rates avgs e s = .ok j s') :
    s'.addrs = s.addrs ∧ s'.rels = s.rels ∧ j = false := by
  have hi : e.heldInvalid P h = true := by rw [TxEntry.heldInvalid, hinv, Bool.not_false, Bool.or_true]
  rw [applyHeld_run, if_pos hi] at hr
  obtain ⟨_, s1, h1, h2⟩ := M.bind_ok hr
  obtain ⟨rfl, rfl⟩ := M.pure_ok h2
  rw [(M.guarded_ok h1).2]
  exact ⟨rfl, rfl, rfl⟩

/-- The key type is selected by height: the secp256k1 (RCD-e) verdict is consulted only strictly
    above the activation height, both on arrival and on execution from holding. -/
theorem key_type_by_height (P : Params) (e : TxEntry) (h : Nat) :
    e.sigOK P h = (if h > P.act.rcde then e.validRCDe else e.validRCD1) := rfl

/-- an entry valid only under RCD-e is not valid at or below the activation height -/
theorem rcde_only_after_activation (P : Params) (e : TxEntry) (h : Nat)
    (h1 : e.validRCD1 = false) (hh : h ≤ P.act.rcde) : e.validAt P h = false :=
  Bool.eq_false_iff.2 fun hv => by
    obtain ⟨_, _, _, _, hs, _⟩ := TxEntry.validAt_iff.1 hv
    rw [TxEntry.sigOK, if_neg (Nat.not_lt.2 hh), h1] at hs
    cases hs

/-- a batch with inputs from two different addresses is never valid (single input address) -/
theorem single_input_address (P : Params) (v : Nat) (t1 t2 : Tx) (rest : List Tx)
    (hne : t2.inAddr ≠ t1.inAddr) : validData P v (t1 :: t2 :: rest) = false :=
  Bool.eq_false_iff.2 fun hv => hne ((validData_true hv).2.2.2 t1 _ rfl t2 List.mem_cons_self)

/-- the int64 bound on inputs -/
theorem input_bound (P : Params) (e : TxEntry) (h : Nat) (v : Nat) (txs : List Tx) (t : Tx)
    (hp : e.parsed = some (v, txs)) (ht : t ∈ txs) (hbig : t.inAmount > maxInt64) : e.validAt P h = false :=
  Bool.eq_false_iff.2 fun hv => by
    obtain ⟨_, _, hp', _, _, hb⟩ := TxEntry.validAt_iff.1 hv
    rw [hp] at hp'
    cases hp'
    exact Nat.not_le.2 hbig (hb t ht)

/-- One entry (hash) executes at most once — see C06. What the model does NOT give, and the real
    code does not either, is "one SIGNATURE, one execution": replay protection is keyed on the
    entry hash, and the RCD-e check ignores the signature's 65th byte, so entries that differ only
    there are distinct hashes with equal validity. In the model two such entries are simply two
    valid entries; both execute. -/
theorem distinct_hashes_both_execute_witness :
    ∃ (e₁ e₂ : TxEntry), e₁.hash ≠ e₂.hash ∧ e₁.parsed = e₂.parsed ∧ e₁.validRCDe = e₂.validRCDe :=
  ⟨{ hash := "aa", ts := 0, parsed := none, validRCD1 := false, validRCDe := true },
   { hash := "ab", ts := 0, parsed := none, validRCD1 := false, validRCDe := true }, by decide, rfl, rfl⟩

/-- **`debit_needs_signature`, one block.** Whatever a block contains (any entries on the three
    chains, any grader answers), if applying it lowers some balance of address `a` — whether the
    block then commits or is rolled back — then `a` is the input address of a batch, written on
    the transaction chain in this block or waiting in holding, that passes `Validate` at this
    height (canonical data, ONE input address, signature by that address' key valid under the key
    types accepted at this height), or `a` is the mint / burn address at the height of its
    scheduled adjustment (`Debitable`). Nobody else's balance can go down. -/
theorem debit_needs_signature (P : Params) (c : DB) (b : Block) (avgs : TMap) (s : DB) (a : Addr) (t : Ticker)
    (hdec : (blockTx P c b avgs s).state.bal a t < s.bal a t) : Debitable P c b a :=
  blockTx_debits_only_debitable P c b avgs s a t hdec

/-- **…every chain.** If replaying a chain of blocks lowers a balance of `a`, some block of the
    chain had `a` among its debitable addresses in the state it was applied to. -/
theorem chain_debit_needs_signature (P : Params) (chain : List Block) (n : Node) (a : Addr) (t : Ticker)
    (hdec : (runBlocks P n chain).db.bal a t < n.db.bal a t) :
    ∃ pre b post, chain = pre ++ b :: post ∧
      Debitable P { (runBlocks P n pre).db with avgTouched := false } b a :=
  have ⟨pre, b, post, hch, hd⟩ := runBlocks_decrease (·.bal a t) chain n hdec
  ⟨pre, b, post, hch, applyBlock_debits_only_debitable P _ b a t hd⟩

/-- a batch in `Debitable` is valid at the block's height, in particular its signature verdict
    under the key types of that height is positive and all its inputs name one address -/
theorem debitable_batch_is_signed (P : Params) (e : TxEntry) (h : Nat) (hv : e.validAt P h = true) :
    e.sigOK P h = true ∧ ∃ v txs, e.parsed = some (v, txs) ∧ validData P v txs = true :=
  let ⟨v, txs, hp, hd, hs, _⟩ := TxEntry.validAt_iff.1 hv
  ⟨hs, v, txs, hp, hd⟩

/-- non-vacuity: a block with one validly signed transfer lowers the sender's balance, and the
    sender is debitable in it -/
def xP : Params :=
  { act := ⟨0,0,0,0,0,0,0,0,0,0,100,100,200,200,300,310,400⟩, tickerMax := 63, tickerNames := ["PEG", "pUSD", "pEUR"], oneWaySet := [],
    snapshotRate := 144, perBlockHolders := 0, perBlockDevs := 0, bankBase := 0, avgPeriod := 8, avgRequired := 4,
    syncVersion := 2, devs := [], «mint» := [], burnAddr := "b", oldBurnAddr := "o", mintAddr := "m", coinbaseAddr := "c", zeroAddr := "0" }
def xEntry : TxEntry :=
  { hash := "e1", ts := 0, validRCD1 := true, validRCDe := true,
    parsed := some (1, [{ inAddr := "alice", inType := 2, inAmount := 30, transfers := [{ addr := "bob", amount := 30 }], conversion := 0 }]) }
def xDB : DB := { addrs := [{ addr := "alice", bals := setB [] 2 100 }] }
def xBlock : Block := { height := 7, ts := 0, txs := some [xEntry] }
example : (blockTx xP xDB xBlock [] xDB).state.bal "alice" 2 = 70 ∧ xDB.bal "alice" 2 = 100 := by decide
example : Debitable xP xDB xBlock "alice" :=
  Or.inl ⟨[xEntry], rfl, xEntry, List.mem_singleton.2 rfl, by decide, _, List.mem_singleton.2 rfl, rfl⟩

/-- the shipped schedule: "V4OPRUpdate indicates the activation of additional currencies and ecdsa
    keys" (config/activations.go) — the height from which `fat2` accepts RCD-e keys, regenerated from
    fat/fat2/activations.go, is the V4 OPR update regenerated from config/activations.go -/
theorem rcde_keys_activate_with_v4 :
    Generated.activations.rcde = Generated.activations.v4 ∧ Generated.activationsComplete = true := by
  decide
/-- the shipped schedule, regenerated from config/activations.go and fat/fat2/activations.go on every
    run, against the values this property was read with: the height above which RCD-e keys sign. Every scenario of the harness
    runs on a compressed schedule that overwrites these constants, so nothing else would notice one of
    them moving; a moved height is a different protocol, not a rewrite. -/
theorem shipped_schedule :
    let a := Generated.activations
    Generated.activationsComplete = true ∧ a.rcde = 231620 := by
  decide
end Pegnet.C05

#print axioms Pegnet.C05.invalid_entry_inert
#print axioms Pegnet.C05.held_revalidated
#print axioms Pegnet.C05.key_type_by_height
#print axioms Pegnet.C05.rcde_only_after_activation
#print axioms Pegnet.C05.single_input_address
#print axioms Pegnet.C05.input_bound
#print axioms Pegnet.C05.distinct_hashes_both_execute_witness
#print axioms Pegnet.C05.debit_needs_signature
#print axioms Pegnet.C05.chain_debit_needs_signature
#print axioms Pegnet.C05.debitable_batch_is_signed
#print axioms Pegnet.C05.rcde_keys_activate_with_v4
#print axioms Pegnet.C05.shipped_schedule



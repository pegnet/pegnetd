import Proofs.Process
import Proofs.Moves
import Pegnet.Generated.Facts
/-
  C15 — Scheduled issuance: developer rewards and one-time ledger adjustments.
-/
namespace Pegnet.C15
open Pegnet

/-- Regenerated developer table: integral percentages summing to 100, 14 distinct addresses;
    hence one payout totals exactly 2,000 PEG (× 144 from 2.0.2 on). -/
theorem dev_table_total :
    Generated.devPctIntegral = true ∧
    (Generated.devs.map (·.2)).sum = 100 ∧
    (Generated.devs.map (fun d => Generated.perBlockDevelopers / 100 * d.2)).sum = 200000000000 ∧
    (Generated.devs.map (fun d => Generated.perBlockDevelopers / 100 * d.2 * Generated.snapshotRate)).sum = 200000000000 * 144 ∧
    (Generated.devs.map (·.1)).eraseDups.length = Generated.devs.length ∧
    Generated.snapshotRate = 144 :=
  -- only the distinctness of the 14 addresses compares strings
  ⟨rfl, rfl, rfl, rfl, by decide +kernel, rfl⟩

/-- the amount one developer receives in the model is the table's percentage of the budget -/
theorem dev_reward_formula (P : Params) (h : Nat) (pct : Nat) :
    (P.perBlockDevs / 100) * pct * (if h ≥ P.act.v202 then P.snapshotRate else 1) =
      if h ≥ P.act.v202 then P.perBlockDevs / 100 * pct * P.snapshotRate else P.perBlockDevs / 100 * pct := by
  split <;> simp

/-- Developer rewards are paid only every `snapshotRate`-th block from their activation. -/
theorem dev_cadence_off (P : Params) (b : Block) (s : DB)
    (h : ¬ (b.height ≥ P.act.devRewards ∧ b.height % P.snapshotRate = 0)) :
    devRewardPhase P b s = .ok () s := by
  unfold devRewardPhase
  simp [h]

/-- The minting and the burning of the 2.0.4 supply happen at exactly their activation heights… -/
theorem mint_only_at_activation (P : Params) (c : DB) (h : Nat) (s : DB)
    (h1 : h ≠ P.act.v204) (h2 : h ≠ P.act.v204Burn) : preAdjust P c h s = .ok () s :=
  preAdjust_skip c s h1 h2

/-- …and the burn-address zeroings at exactly theirs. -/
theorem burn_zeroing_only_at_activation (P : Params) (c : DB) (b : Block) (s : DB)
    (h1 : b.height ≠ P.act.devRewards) (h2 : b.height ≠ P.act.v202) : burnZeroing P c b s = .ok () s := by
  unfold burnZeroing
  simp [h1, h2]

/-- the mint credits exactly the listed amounts (× 1e8) to the mint address: one `AddToBalance`
    per table entry -/
theorem mint_is_table (P : Params) : mintTokens P = M.forEach P.mint (fun p => addBal P P.mintAddr p.1 (p.2 * 100000000)) := rfl

/-- Regenerated mint table: 31 entries, the first is 334,509,613 PEG. -/
theorem mint_table_shape :
    Generated.mint.length = 31 ∧ Generated.mint.head? = some (1, 334509613) ∧
    (Generated.mint.map (·.1)).eraseDups.length = 31 ∧ Generated.mint.all (fun m => decide (0 < m.1 ∧ m.1 < Generated.tickerMax)) = true := by
  decide

/-- activation heights regenerated from config/activations.go keep the order the model's
    era reasoning relies on (strict where two one-time events must not coincide) -/
theorem mainnet_activation_order :
    let a := Generated.activations
    Generated.activationsComplete = true ∧
    a.pegnet < a.gradingV2 ∧ a.gradingV2 < a.txConv ∧ a.txConv < a.pegPricing ∧ a.pegPricing < a.oneWayFCT ∧
    a.oneWayFCT < a.convLimit ∧ a.convLimit = a.pegFloat ∧ a.convLimit < a.v4 ∧ a.rcde = a.v4 ∧ a.v4 < a.v20 ∧
    a.v20 < a.devRewards ∧ a.sprSig = a.devRewards ∧ a.devRewards < a.v202 ∧ a.oneWaySmall = a.v202 ∧
    a.v202 < a.v204 ∧ a.v204 < a.v204Burn ∧ a.v204Burn < a.pip10 := by
  decide

/-! The old-burn-address zeroing is NOT "for exactly the specified amounts": recording the zeroing
    of a non-zero balance fails (`-payout` on a uint64 is rejected by the SQL driver), the caller
    discards the error, and every asset after the first non-zero one keeps its balance.
    Witness: the old burn address holds 5 PEG and 7 pUSD; after the zeroing at `devRewards` the
    7 pUSD are still there. -/
def wP : Params :=
  { act := ⟨0,1,2,3,4,5,5,6,6,7,100,100,200,200,300,310,400⟩, tickerMax := 63,
    tickerNames := ["PEG", "pUSD"], oneWaySet := [], snapshotRate := 144, perBlockHolders := 0, perBlockDevs := 0,
    bankBase := 0, avgPeriod := 8, avgRequired := 4, syncVersion := 2, devs := [], «mint» := [],
    burnAddr := "burn", oldBurnAddr := "old", mintAddr := "mint", coinbaseAddr := "cb", zeroAddr := "00" }
def wDB : DB := { addrs := [{ addr := "old", bals := setB (setB [] 1 5) 2 7 }] }

theorem old_burn_zeroing_incomplete :
    (match M.swallow (nullifyBurn wP wDB 100 0) wDB with
     | .ok _ s => (s.bal "old" 1, s.bal "old" 2)
     | .fail _ _ => (-1, -1)) = (0, 7) := by decide

/-- the 2.0.2 zeroing (no history rows) does zero every asset of the burn address -/
theorem new_burn_zeroing_complete :
    (match M.swallow (nullifyBurn wP { addrs := [{ addr := "burn", bals := setB (setB [] 1 5) 2 7 }] } 200 0)
        { addrs := [{ addr := "burn", bals := setB (setB [] 1 5) 2 7 }] } with
     | .ok _ s => (s.bal "burn" 1, s.bal "burn" 2)
     | .fail _ _ => (-1, -1)) = (0, 0) := by decide +kernel

/-- **Each one-time adjustment occurs at most once, along every run.** The adjustments are tied to
    their heights (`mint_only_at_activation`, `burn_zeroing_only_at_activation`: at any other height
    the step is the identity), and along every run of the daemon — whatever the blocks contain,
    however often it is killed, fails or is restarted — every height is committed at most once:
    the version table never holds two rows of one height. A failed attempt at the height rolls the
    adjustment back with the rest of the block. -/
theorem each_height_committed_at_most_once (P : Params) (ch : Nat → Block) (hch : ∀ h, (ch h).height = h)
    (es : List Ev) (h : Nat) :
    (((runEvs P ch (freshNode P) es).db.syncVersions.map (·.1)).count h) ≤ 1 := by
  have hin := runEvs_inOrder P ch hch (freshNode P).mem es (freshNode P) (inOrder_fresh P)
  exact List.nodup_iff_count.1 hin.nodup h

/-- …and none is skipped: when the run has passed an adjustment height, that height has been
    committed (heights are applied in order, without gaps) -/
theorem passed_height_was_committed (P : Params) (ch : Nat → Block) (hch : ∀ h, (ch h).height = h)
    (es : List Ev) (h : Nat) (hlo : P.act.pegnet < h) (hhi : h ≤ (runEvs P ch (freshNode P) es).mem) :
    h ∈ (runEvs P ch (freshNode P) es).db.syncVersions.map (·.1) := by
  have hin := runEvs_inOrder P ch hch (freshNode P).mem es (freshNode P) (inOrder_fresh P)
  obtain ⟨r, hr, e⟩ := hin.has_row hlo hhi
  exact List.mem_map.2 ⟨r, hr, e⟩

/-- **Developer payout, for every address and asset**: exactly the tabled share
    `(perBlock/100)·pct·(144 from 2.0.2 on)` in PEG to each table entry, nothing to anybody else -/
theorem developer_payout_exact (P : Params) (h : Nat) (ts : Int) (s : DB) :
    Outcome (developersPayouts P h ts s)
      (fun _ s' => ∀ a x, s'.bal a x = s.bal a x +
        (P.devs.map (fun d => if a = d.1 ∧ x = tPEG then ((devReward P h d : Nat) : Int) else 0)).sum) :=
  developersPayouts_exact P h ts s

/-- **The mint, for every address and asset**: exactly the tabled amounts to the mint address -/
theorem mint_exact (P : Params) (s : DB) :
    Outcome (mintTokens P s)
      (fun _ s' => ∀ a x, s'.bal a x = s.bal a x +
        (P.mint.map (fun p => if a = P.mintAddr ∧ x = p.1 then ((p.2 * 100000000 : Nat) : Int) else 0)).sum) :=
  mintTokens_exact P s

/-- the shipped schedule, regenerated from config/activations.go and fat/fat2/activations.go on every
    run, against the values this property was read with: the heights of the developer rewards and of the one-time adjustments. Every scenario of the harness
    runs on a compressed schedule that overwrites these constants, so nothing else would notice one of
    them moving; a moved height is a different protocol, not a rewrite. -/
theorem shipped_schedule :
    let a := Generated.activations
    Generated.activationsComplete = true ∧ a.devRewards = 260118 ∧ a.v202 = 274036 ∧ a.v204 = 288878 ∧ a.v204Burn = 294206 := by
  decide
end Pegnet.C15

#print axioms Pegnet.C15.dev_table_total
#print axioms Pegnet.C15.dev_reward_formula
#print axioms Pegnet.C15.dev_cadence_off
#print axioms Pegnet.C15.mint_only_at_activation
#print axioms Pegnet.C15.burn_zeroing_only_at_activation
#print axioms Pegnet.C15.mint_is_table
#print axioms Pegnet.C15.mint_table_shape
#print axioms Pegnet.C15.mainnet_activation_order
#print axioms Pegnet.C15.old_burn_zeroing_incomplete
#print axioms Pegnet.C15.new_burn_zeroing_complete
#print axioms Pegnet.C15.each_height_committed_at_most_once
#print axioms Pegnet.C15.passed_height_was_committed
#print axioms Pegnet.C15.developer_payout_exact
#print axioms Pegnet.C15.mint_exact
#print axioms Pegnet.C15.shipped_schedule


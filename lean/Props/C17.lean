import Pegnet.Generated.Facts
import Proofs.Holding
import Proofs.HistOK
/-
  C17 — History and status tell the truth about the ledger.
-/
namespace Pegnet.C17
open Pegnet

/-- one page of a query result: `LIMIT lim OFFSET off` -/
def page {α} (lim : Nat) (l : List α) (off : Nat) : List α := (l.drop off).take lim

theorem pages_concat {α} (lim : Nat) (l : List α) (k : Nat) :
    ((List.range k).flatMap fun i => page lim l (lim * i)) = l.take (lim * k) := by
  induction k with
  | zero => simp
  | succ k ih =>
    rw [List.range_succ, List.flatMap_append, ih]
    simp only [List.flatMap_cons, List.flatMap_nil, List.append_nil, page]
    rw [Nat.mul_succ]
    rw [← List.take_add]

/-- Every recorded action is returned exactly once across pages: the pages at offsets
    0, lim, 2·lim, … concatenate to the full result, without duplicates or gaps. -/
theorem pages_partition {α} (lim : Nat) (hl : 0 < lim) (l : List α) :
    ((List.range (l.length / lim + 1)).flatMap fun i => page lim l (lim * i)) = l := by
  rw [pages_concat]
  apply List.take_of_length_le
  have := Nat.lt_mul_div_succ l.length hl
  omega

/-- the regenerated page size -/
theorem query_limit : Generated.queryLimit = 50 := by decide

/-- a batch is recorded as pending (executed = 0) when it arrives -/
theorem arrival_records_pending (P : Params) (h bo : Nat) (e : TxEntry) (s s' : DB)
    (hr : recordHistory P h bo e s = .ok () s') :
    ∃ r ∈ s'.histB, r.hash = e.hash ∧ r.height = h ∧ r.executed = 0 := by
  rw [recordHistory_eq] at hr
  obtain ⟨_, s1, h1, h2⟩ := M.bind_ok hr
  -- the remaining steps only append transaction / lookup rows
  have hkeep : s'.butHistRows.histB = s1.butHistRows.histB := congrArg DB.histB ((recordHistoryRows_frame P e).ok h2)
  rw [show s'.histB = _ from hkeep, (M.guarded_ok h1).2]
  exact ⟨_, List.mem_append_right _ (List.mem_singleton.2 rfl), rfl, rfl, rfl⟩

/-- a rejected or dropped batch has no effect on any balance, relation or holding row -/
theorem reject_has_no_effect {P : Params} {h : Nat} {e : TxEntry} {rates avgs : Option TMap} {s s' : DB} {v : Verdict}
    (hr : applyBatch P h e rates avgs s = .ok v s') (hv : v ≠ .apply) :
    s'.addrs = s.addrs ∧ s'.rels = s.rels ∧ s'.histB = s.histB := by
  rw [applyBatch_noop hr hv]; exact ⟨rfl, rfl, rfl⟩

/-- setting the status of a hash sets it on every history row of that hash and on no other -/
theorem set_executed_exact (hash : Hash) (v : Int) (s s' : DB) (hr : setExecuted hash v s = .ok () s') :
    s'.histB = s.histB.map (fun r => if r.hash == hash then { r with executed := v } else r) ∧ s'.addrs = s.addrs := by
  rw [(M.guarded_ok hr).2]
  exact ⟨rfl, rfl⟩

/-- The overflow path: a conversion whose amount cannot be converted is "accepted" by the code
    with no effect — verdict `.dropped` leaves the status at 0 (pending) forever. Witness of the
    full statement's failure ("pending only while it is still waiting"). -/
def wP : Params :=
  { act := ⟨0,0,0,0,0,0,0,0,0,0,100,100,200,200,300,310,400⟩, tickerMax := 63, tickerNames := ["PEG", "pUSD", "pEUR"], oneWaySet := [],
    snapshotRate := 144, perBlockHolders := 0, perBlockDevs := 0, bankBase := 0, avgPeriod := 8, avgRequired := 4,
    syncVersion := 2, devs := [], «mint» := [], burnAddr := "b", oldBurnAddr := "o", mintAddr := "m", coinbaseAddr := "c", zeroAddr := "0" }

theorem unconvertible_amount_stays_pending :
    verdict wP { addrs := [{ addr := "alice", bals := setB [] 2 4611686018427387904 }] } 50
      (some [(2, 4611686018427387904), (3, 1)]) (some [])
      [{ inAddr := "alice", inType := 2, inAmount := 4611686018427387904, transfers := [], conversion := 3 }] = .dropped := by
  decide

/-- "pending only while it is still waiting", the part that holds: once a rated block above the
    holding height is applied, a held batch has had a status written (or bears a replay mark),
    EXCEPT when its conversion is not computable — the `.dropped` case witnessed by
    `unconvertible_amount_stays_pending`, which is why this theorem is `_partial`. -/
theorem pending_only_while_waiting_partial {P : Params} {c : DB} {b : Block} {avgs : TMap} {s' : DB}
    (hpos : 0 < b.height) (hrun : blockTx P c b avgs c = .ok () s') (htx : b.height ≥ P.act.txConv) :
    (∃ s1 s2 st, gradeAndRates P c b s1 = .ok st s2 ∧ st ≠ .cont true) ∨
    ∃ rates, ∀ row ∈ c.holding, (c.mostRecentRatesBefore b.height).2 ≤ row.height → row.height < b.height →
      Considered P b.height rates avgs c s' row.entry :=
  block_considers_held hpos hrun htx

/-- **An executed conversion's history row carries the amount credited**: `to_amount` of the row
    is `out = ⌊in·src/dst⌋`, the amount `executed_batch_moves_exactly` (C04) shows was added to the
    destination balance. -/
theorem conversion_row_tells_the_credit (P : Params) (h : Nat) (hash : Hash) (rates avgs : Option TMap) (idx : Nat) (t : Tx)
    (s s' : DB) (hnp : ¬ (h ≥ P.act.convLimit ∧ t.isPEGRequest = true)) (hcv : t.isConversion P = true)
    (hr : recordOutputs P h hash rates avgs idx t s = .ok () s') :
    ∃ out, convert P.act.pip10 h (toInt64 t.inAmount) ((rates.getD []).get t.inType) ((avgs.getD []).get t.inType)
        ((rates.getD []).get t.conversion) ((avgs.getD []).get t.conversion) = some out ∧
      (∀ r ∈ s'.histT, r.hash = hash → r.txIndex = (idx : Int) → r.toAmount = out) ∧
      ∀ a x, s'.bal a x = s.bal a x + (if a = t.inAddr ∧ x = t.conversion then out else 0) := by
  obtain ⟨out, hconv, hrow⟩ := conversion_row_records_credit P h hash rates avgs idx t s s' hnp hcv hr
  refine ⟨out, hconv, hrow, ?_⟩
  have := recordOutputs_exact P h hash rates avgs idx t s
  rw [hr] at this
  intro a x
  rw [this a x]
  unfold outDelta
  rw [if_neg hnp, if_pos hcv, hconv]

/-- **A paid PEG request's row carries yield and refund** (bank era) -/
theorem peg_request_row_tells_the_payment (P : Params) (h : Nat) (rates : TMap) (rq : PegReq) (y : Nat) (s s' : DB)
    (hr : payPegReq P h rates rq y s = .ok () s') :
    ∀ r ∈ s'.histT, r.hash = rq.key.hash → r.txIndex = (rq.key.idx : Int) →
      r.toAmount = toInt64 y ∧
      r.outputs = renderOutputs [(rq.tx.inAddr,
        refund P.act.pip10 h (toInt64 rq.tx.inAmount) (toInt64 y) (rates.get rq.tx.inType) (rates.get rq.tx.conversion))] :=
  pegRequest_row_records_payment P h rates rq y s s' hr

/-- **The history tables stay consistent along every chain**: every recorded action (row of
    `pn_history_transaction`) and every held entry belongs to a recorded batch (row of
    `pn_history_txbatch` with its hash), whatever the blocks contain and whether they commit or fail. -/
theorem every_action_belongs_to_a_batch (P : Params) (chain : List Block) :
    (∀ r ∈ (runBlocks P (freshNode P) chain).db.histT, (runBlocks P (freshNode P) chain).db.isRecorded r.hash = true) ∧
    (∀ r ∈ (runBlocks P (freshNode P) chain).db.holding, (runBlocks P (freshNode P) chain).db.isRecorded r.entry.hash = true) :=
  runBlocks_histHoldOK P _ chain (histOK_fresh P)

end Pegnet.C17

#print axioms Pegnet.C17.pages_concat
#print axioms Pegnet.C17.pages_partition
#print axioms Pegnet.C17.query_limit
#print axioms Pegnet.C17.arrival_records_pending
#print axioms Pegnet.C17.reject_has_no_effect
#print axioms Pegnet.C17.set_executed_exact
#print axioms Pegnet.C17.unconvertible_amount_stays_pending
#print axioms Pegnet.C17.pending_only_while_waiting_partial
#print axioms Pegnet.C17.conversion_row_tells_the_credit
#print axioms Pegnet.C17.peg_request_row_tells_the_payment
#print axioms Pegnet.C17.every_action_belongs_to_a_batch

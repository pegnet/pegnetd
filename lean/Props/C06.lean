import Proofs.Holding
import Proofs.ExecOnce
import Proofs.HoldOnce
import Proofs.Process
import Pegnet.Generated.Facts
/-
  C06 — At-most-once execution of an entry (replay protection).
-/
namespace Pegnet.C06
open Pegnet

/-- Executing a batch marks its entry hash: afterwards `IsReplayTransaction` answers true. -/
theorem execution_marks_entry {P : Params} {h : Nat} {e : TxEntry} {rates avgs : Option TMap} {s s' : DB}
    {t0 : Tx} {rest : List Tx} (htx : e.txs = t0 :: rest)
    (hr : applyBatch P h e rates avgs s = .ok .apply s') : s'.isReplay e.hash = true := by
  have hrec := (applyBatch_apply hr).2
  rw [htx] at hrec
  exact recordBatch_marks hrec

/-- The mark is permanent: no later block, whatever it contains and whether it is applied or
    rolled back, removes it. For every chain. -/
theorem mark_is_permanent (P : Params) (n : Node) (chain : List Block) (x : Hash)
    (hx : n.db.isReplay x = true) : (runBlocks P n chain).db.isReplay x = true :=
  runBlocks_rel (P := P) relsGrow ⟨fun _ _ _ h => h⟩ (fun b => primsOK_relsGrow P b.height)
    (fun _ => Step.guarded (fun _ _ h => h)) n chain x hx

/-- A marked entry that arrives again on the chain is skipped entirely: nothing is written. -/
theorem repeated_arrival_is_noop (P : Params) (h : Nat) (keymr : String) (bo : Nat) (e : TxEntry) (s : DB)
    (hx : s.isReplay e.hash = true) : applyTxEntry P h keymr bo e s = .ok () s :=
  applyTxEntry_skip_replay hx

/-- A marked entry still sitting in holding is skipped when its window is processed: balances,
    relations and holding are untouched (only an invalid batch gets its status set to −2). -/
theorem repeated_holding_no_balance_change (P : Params) (h : Nat) (rates avgs : TMap) (e : TxEntry) (s s' : DB) (j : Bool)
    (hx : s.isReplay e.hash = true) (hr : applyHeld P h rates avgs e s = .ok j s') :
    s'.addrs = s.addrs ∧ s'.rels = s.rels := by
  rw [applyHeld_run, if_pos hx] at hr
  by_cases hinv : e.heldInvalid P h = true
  · rw [if_pos hinv] at hr
    obtain ⟨_, s1, h1, h2⟩ := M.bind_ok hr
    cases h2
    rw [(M.guarded_ok h1).2]
    exact ⟨rfl, rfl⟩
  · rw [if_neg hinv] at hr
    cases hr
    exact ⟨rfl, rfl⟩

/-- the holding window of block `h` visits only heights `fromH … h-1`: strictly earlier blocks -/
theorem window_strictly_earlier (fromH h i : Nat) (hi : i ∈ (List.range (h - fromH)).map (· + fromH)) :
    fromH ≤ i ∧ i < h := by
  obtain ⟨k, hk, rfl⟩ := List.mem_map.1 hi
  exact ⟨Nat.le_add_left _ _, Nat.add_lt_of_lt_sub (List.mem_range.1 hk)⟩

/-- **At least once.** When a block at or above the transaction activation is applied, then
    unless it had no usable rates (conversions keep waiting) every batch held at a height of the
    window `[last rated height, this height)` is considered in this very block: a non-zero status
    (execution height or negative reject code) is written for it, or it already bears a replay mark, or its
    conversion could not be computed (dropped: C17's known finding). Together with
    `window_strictly_earlier` and `mark_is_permanent` this is "considered for execution exactly
    once". (`DB.statusLog` is a history variable: the sequence of status writes.) -/
theorem held_batches_are_considered {P : Params} {c : DB} {b : Block} {avgs : TMap} {s' : DB}
    (hpos : 0 < b.height) (hrun : blockTx P c b avgs c = .ok () s') (htx : b.height ≥ P.act.txConv) :
    (∃ s1 s2 st, gradeAndRates P c b s1 = .ok st s2 ∧ st ≠ .cont true) ∨
    ∃ rates, ∀ row ∈ c.holding, (c.mostRecentRatesBefore b.height).2 ≤ row.height → row.height < b.height →
      Considered P b.height rates avgs c s' row.entry :=
  block_considers_held hpos hrun htx

/-- non-vacuity: a concrete holding window in which a funded conversion is executed (a status is
    written), evaluated by the kernel -/
def wP : Params :=
  { act := ⟨0,0,0,0,0,0,0,0,0,0,100,100,200,200,300,310,400⟩, tickerMax := 63, tickerNames := ["PEG", "pUSD", "pEUR"], oneWaySet := [],
    snapshotRate := 144, perBlockHolders := 0, perBlockDevs := 0, bankBase := 0, avgPeriod := 8, avgRequired := 4,
    syncVersion := 2, devs := [], «mint» := [], burnAddr := "b", oldBurnAddr := "o", mintAddr := "m", coinbaseAddr := "c", zeroAddr := "0" }
def wEntry : TxEntry :=
  { hash := "e1", ts := 0, validRCD1 := true, validRCDe := true,
    parsed := some (1, [{ inAddr := "alice", inType := 2, inAmount := 100, transfers := [], conversion := 3 }]) }
def wDB : DB :=
  { addrs := [{ addr := "alice", bals := setB [] 2 1000 }],
    holding := [{ entry := wEntry, height := 7, keymr := "k" }],
    histB := [{ hash := "e1", height := 7, blockorder := 0, ts := 0, executed := 0 }] }
example :
    (match applyHolding wP wDB 9 [(2, 100000000), (3, 200000000)] [] 7 wDB with
     | .ok _ s' => s'.statusLog
     | .fail _ _ => []) = [("e1", 9)] := by
  decide

/-! ### at most once, along every chain and every process run

`DB.execLog` is a history variable of the model: `applyTransactionBatch` appends the entry hash
each time — and only when — it goes on to move balances (`execution_is_logged`,
`no_execution_no_effect`). The theorems say no hash ever occurs twice in it. -/

/-- an execution (the batch is applied: balances move) is logged -/
theorem execution_is_logged {P : Params} {h : Nat} {e : TxEntry} {rates avgs : Option TMap} {s s' : DB}
    (hr : applyBatch P h e rates avgs s = .ok .apply s') : s'.execLog = s.execLog ++ [e.hash] :=
  ((recordBatch_step (primsOK_keepLogGrowRels P h) e.hash rates avgs e.txs).ok (applyBatch_apply hr).2).1

/-- every other outcome of `applyTransactionBatch` that lets the block go on changes nothing at all -/
theorem no_execution_no_effect {P : Params} {h : Nat} {e : TxEntry} {rates avgs : Option TMap} {s s' : DB} {v : Verdict}
    (hv : v ≠ .apply) (hr : applyBatch P h e rates avgs s = .ok v s') : s' = s :=
  applyBatch_noop hr hv

/-- **At most once, every chain.** Whatever blocks the chain holds — entries repeated on the
    transaction chain, the same entry held twice, an entry both held and arriving again, blocks
    that fail and are retried — no entry hash is executed twice. -/
theorem executed_at_most_once (P : Params) (chain : List Block) :
    (runBlocks P (freshNode P) chain).db.execLog.Nodup :=
  (runBlocks_execOnce P _ chain (execOnce_fresh P)).1

theorem executed_at_most_once_count (P : Params) (chain : List Block) (x : Hash) :
    (runBlocks P (freshNode P) chain).db.execLog.count x ≤ 1 :=
  List.nodup_iff_count.1 (executed_at_most_once P chain) x

/-- … and everything executed bears its mark at the end (so it stays unexecutable) -/
theorem executed_is_marked (P : Params) (chain : List Block) (x : Hash)
    (hx : x ∈ (runBlocks P (freshNode P) chain).db.execLog) :
    (runBlocks P (freshNode P) chain).db.isReplay x = true :=
  (runBlocks_execOnce P _ chain (execOnce_fresh P)).2 x hx

/-- **At most once, every process run**: attempts, killed iterations and restarts in any order. -/
theorem executed_at_most_once_process (P : Params) (ch : Nat → Block) (es : List Ev) :
    (runEvs P ch (freshNode P) es).db.execLog.Nodup :=
  (runEvs_rel execRel_flagBlind (fun _ _ => execOnce_congr rfl rfl) (fun b c avgs => blockTx_execOnce c b avgs)
    ch es _ (execOnce_fresh P)).1

/-- non-vacuity: the same conversion entry held twice is executed once (the log has one entry,
    and the second visit writes nothing), evaluated by the kernel -/
example :
    (match applyHolding wP { wDB with holding := wDB.holding ++ wDB.holding } 9 [(2, 100000000), (3, 200000000)] [] 7 wDB with
     | .ok _ s' => s'.execLog
     | .fail _ _ => []) = ["e1"] := by
  decide

/-- **An entry is placed in holding at most once**, along every chain: the holding table never has
    two rows of one entry hash (so the window of a block meets a held entry once). -/
theorem held_at_most_once (P : Params) (chain : List Block) :
    ((runBlocks P (freshNode P) chain).db.holding.map (·.entry.hash)).Nodup :=
  runBlocks_holdNodup P _ chain List.nodup_nil

/-- the shipped schedule, regenerated from config/activations.go and fat/fat2/activations.go on every
    run, against the values this property was read with: the height from which conversions are held for the next rated block. Every scenario of the harness
    runs on a compressed schedule that overwrites these constants, so nothing else would notice one of
    them moving; a moved height is a different protocol, not a rewrite. -/
theorem shipped_schedule :
    let a := Generated.activations
    Generated.activationsComplete = true ∧ a.txConv = 213237 := by
  decide
end Pegnet.C06

#print axioms Pegnet.C06.execution_marks_entry
#print axioms Pegnet.C06.mark_is_permanent
#print axioms Pegnet.C06.repeated_arrival_is_noop
#print axioms Pegnet.C06.repeated_holding_no_balance_change
#print axioms Pegnet.C06.window_strictly_earlier
#print axioms Pegnet.C06.held_batches_are_considered
#print axioms Pegnet.C06.execution_is_logged
#print axioms Pegnet.C06.no_execution_no_effect
#print axioms Pegnet.C06.executed_at_most_once
#print axioms Pegnet.C06.executed_at_most_once_count
#print axioms Pegnet.C06.executed_is_marked
#print axioms Pegnet.C06.executed_at_most_once_process
#print axioms Pegnet.C06.held_at_most_once
#print axioms Pegnet.C06.shipped_schedule


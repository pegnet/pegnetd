import Proofs.Moves
/-
  C04 — Supply conservation: value is created or destroyed only by protocol events.
-/
namespace Pegnet.C04
open Pegnet

/-- what the outputs of a transfer credit: everything except outputs to the burn address -/
def creditedSum (burn : Addr) (trs : List Transfer) : Int :=
  ((trs.filter (fun tr => !(tr.addr == burn))).map (fun tr => (tr.amount : Int))).sum

def burnedSum (burn : Addr) (trs : List Transfer) : Int :=
  ((trs.filter (fun tr => tr.addr == burn)).map (fun tr => (tr.amount : Int))).sum

theorem supplied_sum (burn : Addr) (ty : Ticker) (trs : List Transfer) (t' : Ticker) :
    (trs.map fun tr => if tr.addr == burn then 0 else col ty (tr.amount : Nat) t').sum =
      if ty = t' then creditedSum burn trs else 0 := by
  unfold creditedSum
  rw [← List.sum_map_ite]
  by_cases ht : ty = t'
  · rw [if_pos ht]
    refine congrArg List.sum (List.map_congr_left fun tr _ => ?_)
    cases tr.addr == burn <;> simp [col, ht]
  · rw [if_neg ht]
    refine Eq.trans (congrArg List.sum (List.map_congr_left fun tr _ => ?_)) (List.sum_map_zero trs)
    simp [col, ht]

theorem credit_transfers_supply (P : Params) (h : Nat) (hash : Hash) (idx : Nat) (ty : Ticker) (trs : List Transfer)
    (s s' : DB) (hok : AddrsOK s)
    (hr : M.forEach trs (fun tr =>
        if tr.addr == burnAddrAt P h then (pure () : LM Unit) else do
          addBal P tr.addr ty tr.amount
          insertRelation hash tr.addr idx true false) s = .ok () s') :
    (∀ t', s'.supply t' = s.supply t' + (if ty = t' then creditedSum (burnAddrAt P h) trs else 0)) ∧ AddrsOK s' := by
  obtain ⟨hok', hs⟩ := (Adds.forEach (creditRound_adds supplyLedger P h hash idx ty) trs).of_ok hok hr
  exact ⟨fun t' => by rw [hs t', supplied_sum], hok'⟩

theorem credited_add_burned (burn : Addr) (trs : List Transfer) :
    creditedSum burn trs + burnedSum burn trs = (trs.map (fun tr => (tr.amount : Int))).sum := by
  unfold creditedSum burnedSum
  induction trs with
  | nil => rfl
  | cons x xs ih =>
    simp only [List.filter_cons, List.map_cons, List.sum_cons]
    cases x.addr == burn
    · simp only [Bool.not_false, if_true, Bool.false_eq_true, if_false, List.map_cons, List.sum_cons]
      rw [Int.add_assoc, ih]
    · simp only [Bool.not_true, if_true, Bool.false_eq_true, if_false, List.map_cons, List.sum_cons]
      rw [Int.add_left_comm, ih]

/-- A transfer moves value without creating or destroying any: executing one transfer
    transaction changes the supply of its asset by minus the input plus what is credited, i.e. by
    exactly minus what was sent to the burn address; no other asset's supply changes. -/
theorem transfer_conserves (P : Params) (h : Nat) (hash : Hash) (rates avgs : Option TMap) (idx : Nat) (t : Tx)
    (s s' : DB) (hok : AddrsOK s) (htr : t.transfers ≠ [])
    (hsum : ((t.transfers.map (fun tr => (tr.amount : Int))).sum) = (t.inAmount : Int))
    (hr : recordTx P h hash rates avgs idx t s = .ok () s') :
    (∀ t', s'.supply t' = s.supply t' - (if t.inType = t' then burnedSum (burnAddrAt P h) t.transfers else 0)) ∧ AddrsOK s' := by
  obtain ⟨hok', hs'⟩ := supplyLedger.recordTx_ok hok hr
  refine ⟨fun t' => ?_, hok'⟩
  -- debited: the input; credited: the outputs not sent to the burn address; the two sums split the input
  have := credited_add_burned (burnAddrAt P h) t.transfers
  rw [hs' t', outEffect_transfer _ P h rates avgs t htr, supplied_sum, col]
  split <;> omega

/-- with no output to the burn address a transfer leaves every asset's supply unchanged -/
theorem plain_transfer_supply_unchanged (P : Params) (h : Nat) (hash : Hash) (rates avgs : Option TMap) (idx : Nat) (t : Tx)
    (s s' : DB) (hok : AddrsOK s) (htr : t.transfers ≠ [])
    (hsum : ((t.transfers.map (fun tr => (tr.amount : Int))).sum) = (t.inAmount : Int))
    (hnb : ∀ tr ∈ t.transfers, (tr.addr == burnAddrAt P h) = false)
    (hr : recordTx P h hash rates avgs idx t s = .ok () s') : ∀ t', s'.supply t' = s.supply t' := by
  intro t'
  rw [(transfer_conserves P h hash rates avgs idx t s s' hok htr hsum hr).1 t']
  have : burnedSum (burnAddrAt P h) t.transfers = 0 := by
    unfold burnedSum
    have : t.transfers.filter (fun tr => tr.addr == burnAddrAt P h) = [] := by
      apply List.filter_eq_nil_iff.2
      intro tr htr'
      simp [hnb tr htr']
    rw [this]; rfl
  rw [this]; split <;> omega

/-- a rejected or dropped batch changes no supply (it changes nothing at all) -/
theorem rejected_batch_supply_unchanged {P : Params} {h : Nat} {e : TxEntry} {rates avgs : Option TMap} {s s' : DB} {v : Verdict}
    (hr : applyBatch P h e rates avgs s = .ok v s') (hv : v ≠ .apply) (t : Ticker) : s'.supply t = s.supply t := by
  rw [applyBatch_noop hr hv]

/-- **A transfer, for every address and asset.** After an executed transfer the balance of EVERY
    address `a` in EVERY asset `x` is its balance before, minus the input amount when `a` is the
    sender and `x` the transferred asset, plus the outputs naming `a` in that asset (outputs to the
    burn address are not credited). Every unit debited from the sender is credited to the named
    recipients, and nobody else's balance changes. (`Outcome`: the only other way the step can end is
    an SQL-level failure of the block, never a partial application.) -/
theorem transfer_moves_value_exactly (P : Params) (h : Nat) (hash : Hash) (rates avgs : Option TMap) (idx : Nat) (t : Tx)
    (htr : t.transfers ≠ []) (s : DB) (hf : (t.inAmount : Int) ≤ s.bal t.inAddr t.inType) :
    Outcome (recordTx P h hash rates avgs idx t s)
      (fun _ s' => ∀ a x, s'.bal a x = s.bal a x
        - (if a = t.inAddr ∧ x = t.inType then (t.inAmount : Int) else 0)
        + (if x = t.inType then creditedTo P h a t.transfers else 0)) :=
  transfer_exact P h hash rates avgs idx t htr s hf

/-- nobody else: an address that is neither the sender nor named in an output keeps every balance -/
theorem transfer_leaves_bystanders_alone (P : Params) (h : Nat) (a : Addr) (t : Tx)
    (hns : a ≠ t.inAddr) (hno : ∀ tr ∈ t.transfers, tr.addr ≠ a) (x : Ticker) :
    (- (if a = t.inAddr ∧ x = t.inType then (t.inAmount : Int) else 0)
      + (if x = t.inType then creditedTo P h a t.transfers else 0)) = 0 := by
  have hb : backTo a t.transfers = 0 := by
    unfold backTo
    have : t.transfers.filter (·.addr == a) = [] := by
      apply List.filter_eq_nil_iff.2
      intro tr htr
      simpa using hno tr htr
    rw [this]; rfl
  unfold creditedTo
  simp [hns, hb]

/-- **Mining and staking-record rewards create exactly the rewards decided**: for every address
    and asset, applying the graded OPR (SPR) block changes only the PEG balance of the payout
    addresses of the winning records, by exactly their payouts. -/
theorem opr_rewards_create_exactly (P : Params) (oh ts : Int) (ws : List OprW) (s : DB) :
    Outcome (applyGradedOPR P oh ts ws s)
      (fun _ s' => ∀ a x, s'.bal a x = s.bal a x + (if x = tPEG then oprCredit a ws else 0)) :=
  oprRewards_exact P oh ts ws s

theorem spr_rewards_create_exactly (P : Params) (oh ts : Int) (ws : List SprW) (s : DB) :
    Outcome (applyGradedSPR P oh ts ws s)
      (fun _ s' => ∀ a x, s'.bal a x = s.bal a x + (if x = tPEG then sprCredit a ws else 0)) :=
  sprRewards_exact P oh ts ws s

/-- **An executed batch, for every address and asset.** If `recordBatch` records a batch (that is,
    the batch executes), then the balance of EVERY address in EVERY asset changes by exactly the sum,
    over the batch's transactions, of: minus the input (for the input address and asset), plus the
    transfer outputs naming the address (burn-address outputs excepted), plus the converted amount
    `⌊in·src/dst⌋` for an ordinary conversion (a bank-era PEG request is paid by the bank pass).
    Nothing else moves: no third address, no other asset, no rounding gain. -/
theorem executed_batch_moves_exactly (P : Params) (h : Nat) (hash : Hash) (rates avgs : Option TMap) (txs : List Tx)
    (s s' : DB) (hok : AddrsOK s) (hr : recordBatch P h hash rates avgs txs s = .ok () s') :
    ∀ a x, s'.bal a x = s.bal a x + batchDelta P h rates avgs txs a x :=
  (recordBatch_exact P h hash rates avgs txs s s' hok hr).2

/-- an ordinary conversion, spelled out: the input address loses the input in the source asset and
    gains `out = ⌊in·src/dst⌋` in the destination asset; nobody else is touched -/
theorem conversion_moves_value_exactly (P : Params) (h : Nat) (rates avgs : Option TMap) (t : Tx) (a : Addr) (x : Ticker)
    (hcv : t.isConversion P = true) (hnp : ¬ (h ≥ P.act.convLimit ∧ t.isPEGRequest = true)) (out : Int)
    (hconv : convert P.act.pip10 h (toInt64 t.inAmount) ((rates.getD []).get t.inType) ((avgs.getD []).get t.inType)
        ((rates.getD []).get t.conversion) ((avgs.getD []).get t.conversion) = some out) :
    txDelta P h rates avgs t a x =
      (if a = t.inAddr ∧ x = t.conversion then out else 0) - (if a = t.inAddr ∧ x = t.inType then (t.inAmount : Int) else 0) := by
  unfold txDelta outDelta
  rw [if_neg hnp, if_pos hcv, hconv]

/-- **The bank pass creates exactly the yields it decides and refunds exactly the rest.** -/
theorem bank_pass_moves_exactly (P : Params) (h : Nat) (rates avgs : TMap) (batches : List TxEntry)
    (bank : Nat) (bh : Int) (s : DB) :
    Outcome (recordPegRequests P h rates avgs batches bank bh s)
      (fun _ s' => ∀ a x, s'.bal a x = s.bal a x +
        (((pegRequests P h rates avgs batches).zip
            (payouts bank ((pegRequests P h rates avgs batches).map fun r => (r.key, r.requested)))).map
          (fun rp => pegDelta P h rates rp.1 rp.2.2 a x)).sum) :=
  recordPegRequests_exact P h rates avgs batches bank bh s

/-- **FCT burns create exactly the burned amounts**, in pFCT, for the burning addresses -/
theorem burns_create_exactly (P : Params) (h : Nat) (burnRCD : Addr) (fcts : List FctTx) (s : DB) :
    Outcome (applyFactoidBlock P h burnRCD fcts s)
      (fun _ s' => ∀ a x, s'.bal a x = s.bal a x + (fcts.map (fun f => burnDelta burnRCD f a x)).sum) :=
  applyFactoidBlock_exact P h burnRCD fcts s

/-- **Developer rewards create exactly the tabled shares**, in PEG -/
theorem developer_rewards_create_exactly (P : Params) (h : Nat) (ts : Int) (s : DB) :
    Outcome (developersPayouts P h ts s)
      (fun _ s' => ∀ a x, s'.bal a x = s.bal a x +
        (P.devs.map (fun d => if a = d.1 ∧ x = tPEG then ((devReward P h d : Nat) : Int) else 0)).sum) :=
  developersPayouts_exact P h ts s

/-- **The mint creates exactly the tabled amounts**, for the mint address only -/
theorem mint_creates_exactly (P : Params) (s : DB) :
    Outcome (mintTokens P s)
      (fun _ s' => ∀ a x, s'.bal a x = s.bal a x +
        (P.mint.map (fun p => if a = P.mintAddr ∧ x = p.1 then ((p.2 * 100000000 : Nat) : Int) else 0)).sum) :=
  mintTokens_exact P s

/-- non-vacuity: a two-transaction batch (a transfer with change, then a conversion) evaluated by
    the kernel against `batchDelta` -/
def wP : Params :=
  { act := ⟨0,0,0,0,0,0,0,0,0,0,100,100,200,200,300,310,400⟩, tickerMax := 63, tickerNames := ["PEG", "pUSD", "pEUR"], oneWaySet := [],
    snapshotRate := 144, perBlockHolders := 0, perBlockDevs := 0, bankBase := 0, avgPeriod := 8, avgRequired := 4,
    syncVersion := 2, devs := [], «mint» := [], burnAddr := "b", oldBurnAddr := "o", mintAddr := "m", coinbaseAddr := "c", zeroAddr := "0" }
def wTxs : List Tx :=
  [{ inAddr := "alice", inType := 2, inAmount := 100, transfers := [⟨"bob", 70⟩, ⟨"alice", 30⟩], conversion := 0 },
   { inAddr := "alice", inType := 2, inAmount := 50, transfers := [], conversion := 3 }]
example :
    (batchDelta wP 5 (some [(2, 200), (3, 100)]) none wTxs "alice" 2, batchDelta wP 5 (some [(2, 200), (3, 100)]) none wTxs "alice" 3,
     batchDelta wP 5 (some [(2, 200), (3, 100)]) none wTxs "bob" 2) = (-120, 100, 70) := by
  decide

end Pegnet.C04

#print axioms Pegnet.C04.credit_transfers_supply
#print axioms Pegnet.C04.transfer_conserves
#print axioms Pegnet.C04.plain_transfer_supply_unchanged
#print axioms Pegnet.C04.rejected_batch_supply_unchanged
#print axioms Pegnet.C04.transfer_moves_value_exactly
#print axioms Pegnet.C04.transfer_leaves_bystanders_alone
#print axioms Pegnet.C04.opr_rewards_create_exactly
#print axioms Pegnet.C04.spr_rewards_create_exactly
#print axioms Pegnet.C04.executed_batch_moves_exactly
#print axioms Pegnet.C04.conversion_moves_value_exactly
#print axioms Pegnet.C04.bank_pass_moves_exactly
#print axioms Pegnet.C04.burns_create_exactly
#print axioms Pegnet.C04.developer_rewards_create_exactly
#print axioms Pegnet.C04.mint_creates_exactly

import Proofs.Chain
import Pegnet.Generated.Facts
/-
  C18 — API isolation. Lean decides this at CALL GRANULARITY: every API handler call and every
  block application is one atomic step of the model. Goroutine interleavings INSIDE a call
  cannot be exhibited by a sequential model; the `api` scenario runs the real daemon under the
  race detector for that part (support, not proof), and the regenerated facts pin down that the
  handlers share no mutable memory with the sync loop except the atomically read sync height.
  (Before fix 4a9cbf7 the handlers moved the sync loop's own cache; the kernel-checked witness of
  that is kept in C09 as `restart_dependent_witness`: the same reload path.)
-/
namespace Pegnet.C18
open Pegnet

/-- the API server's own mutable state: its private averaging cache (`APIServer.avgNode`) -/
structure Api where
  cache : AvgCache := {}

/-- the one API operation that keeps state between calls: `rateAverages(h)` of the rich-list
    handlers. It reads the committed database and moves the API's OWN cache. -/
def apiGetAverages (P : Params) (n : Node) (a : Api) (h : Nat) : Api × TMap :=
  let (c, avg) := getAverages P n.db a.cache h
  ({ cache := c }, avg)

/-- one event of a daemon's life at call granularity -/
inductive Event where
  | api (h : Nat)        -- a handler asks for averages at a height of its choosing
  | block (b : Block)    -- the sync loop applies (or fails to apply) a block

def stepEvent (P : Params) (s : Node × Api) : Event → Node × Api
  | .api h => (s.1, (apiGetAverages P s.1 s.2 h).1)
  | .block b => ((applyBlock P s.1 b).1, s.2)

def runEvents (P : Params) (s : Node × Api) (es : List Event) : Node × Api := es.foldl (stepEvent P) s

def blocksOf : List Event → List Block
  | [] => []
  | .api _ :: es => blocksOf es
  | .block b :: es => b :: blocksOf es

/-- **API isolation (call granularity).** For every interleaving of API calls with block
    applications, the node — committed database, in-memory sync height and the averaging cache
    conversions are priced with — ends exactly where the same blocks alone would have left it. -/
theorem api_isolation (P : Params) (n : Node) (a : Api) (es : List Event) :
    (runEvents P (n, a) es).1 = runBlocks P n (blocksOf es) := by
  unfold runEvents
  fun_induction blocksOf es generalizing n a
  case case1 => rfl
  case case2 ih => exact ih n _
  case case3 ih => exact ih _ a

/-- the averages a handler gets are a function of the committed database and the API's own cache:
    nothing of a block in progress (which lives in the sync loop's transaction) can show -/
theorem api_sees_committed_only (P : Params) (n₁ n₂ : Node) (a : Api) (h : Nat)
    (hdb : n₁.db = n₂.db) : (apiGetAverages P n₁ a h).2 = (apiGetAverages P n₂ a h).2 := by
  unfold apiGetAverages; rw [hdb]

/-- non-vacuity: an interleaving with API calls and a block -/
example (b : Block) : blocksOf [.api 3, .block b, .api 1] = [b] := rfl

/-- Regenerated: no SQL write goes through the connection pool, and the places where the API
    package touches in-memory node state are exactly these: the averaging function is called only
    on the API's private node value (`s.avgNode`, built and used in `rateAverages` alone, under
    `s.avgMu`), never on the shared `s.Node`; the shared sync height is read through
    `GetCurrentSync` (an atomic load); every `Synced` selector in srv is a field of a value read
    from the database. A new handler touching shared state breaks this obligation. -/
theorem shared_state_sites :
    Generated.poolWrites = [] ∧
    Generated.apiSharedState =
      ["srv/methods.go:getBank:srv:Synced", "srv/methods.go:getMiningDominance:srv:Synced",
       "srv/methods.go:getMiningDominance:srv:Synced", "srv/methods.go:getMiningDominance:srv:Synced",
       "srv/methods.go:rateAverages:srv:private:s.avgMu", "srv/methods.go:rateAverages:srv:private:s.avgMu",
       "srv/methods.go:rateAverages:srv:private:s.avgNode",
       "srv/methods.go:rateAverages:srv:new:node.Pegnetd{Pegnet: s.Node.Pegnet}",
       "srv/methods.go:rateAverages:srv:private:s.avgNode",
       "srv/methods.go:rateAverages:srv:call:s.avgNode.GetPegNetRateAverages",
       "srv/methods.go:rateAverages:srv:private:s.avgNode",
       "srv/methods.go:getGlobalRichList:srv:call:s.Node.GetCurrentSync",
       "srv/methods.go:getRichList:srv:call:s.Node.GetCurrentSync",
       "srv/methods.go:getPegnetRates:srv:Synced", "srv/methods.go:getSyncStatus:srv:call:s.Node.GetCurrentSync",
       "srv/methods.go:getSyncStatus:srv:call:s.Node.GetCurrentSync", "srv/methods.go:getGraded:srv:Synced"] ∧
    Generated.goStatements =
      ["cmd/root.go:always:cmd:go:func() {", "node/sync.go:multiFetch:node:go:func() {",
       "srv/srv.go:Start:srv:go:func() {", "srv/srv.go:Start:srv:go:func() {"] :=
  ⟨rfl, rfl, rfl⟩

/-- Regenerated: every package-level variable of the packages whose code runs both in the sync loop
    and in the API handlers (node, node/pegnet, node/conversions, srv, fat/fat2). Each is memory
    shared between goroutines; the ones listed are configuration tables, error values and constants
    written at start-up only (`node/conversions` has none: `Convert` allocates its operands per
    call). A new package-level variable — e.g. scratch space hoisted out of a function that both
    sides call — breaks this obligation. -/
theorem package_state_sites :
    Generated.packageVars = ["fat/fat2/activations.go:Fat2RCDEActivation:uint32", "fat/fat2/pticker.go:validPTickerStrings:[]string", "fat/fat2/pticker.go:validPTickers:func", "fat/fat2/transaction.go:coinbase:factom.FsAddress", "node/average.go:AveragePeriod:uint64", "node/average.go:AverageRequired:AveragePeriod / 2", "node/burns.go:BurnAddress:\"EC2BURNFCT2PEGNETooo1oooo1oooo1oooo1oooo1oooo19wthin\"", "node/burns.go:BurnRCD:[32]byte", "node/burns.go:GlobalBurnAddress:\"FA2BURNBABYBURNoooooooooooooooooooooooooooooooDGvNXy\"", "node/burns.go:GlobalMintAddress:\"FA3j16WPCiqsAFHVZcEoL85Khh5RhPCNe6PWHBKgUxrx8MAnbNoy\"", "node/burns.go:GlobalOldBurnAddress:\"FA1y5ZGuHSLmf2TqNf6hVMkPiNGyQpQDTFJvDLRkKQaoPo4bmbgu\"", "node/devs.go:DeveloperRewardAddreses:[]DevReward", "node/mint.go:MintTotalSupplyMap:[]MintSupply", "node/pegnet/addresses.go:addressSelectCols:``", "node/pegnet/addresses.go:snapshotMinSelectCols:``", "node/pegnet/admin.go:Hardforks:[]ForkEvent", "node/pegnet/admin.go:PegnetdSyncVersion:2", "node/pegnet/errors.go:InsufficientBalanceErr:errors.New", "node/pegnet/errors.go:InsufficientBalanceErrInt:int64", "node/pegnet/errors.go:PFCTOneWayError:errors.New", "node/pegnet/errors.go:PFCTOneWayErrorInt:int64", "node/pegnet/errors.go:PSMALLOneWayError:errors.New", "node/pegnet/errors.go:PSMALLOneWayErrorInt:int64", "node/pegnet/errors.go:ZeroRatesError:errors.New", "node/pegnet/errors.go:ZeroRatesErrorInt:int64", "srv/errors.go:ErrorAddressNotFound:jrpc.NewError", "srv/errors.go:ErrorInvalidTransaction:jrpc.NewError", "srv/errors.go:ErrorNoEC:jrpc.NewError", "srv/errors.go:ErrorNotFound:jrpc.NewError", "srv/errors.go:ErrorPendingDisabled:jrpc.NewError", "srv/errors.go:ErrorTokenNotFound:jrpc.NewError", "srv/errors.go:ErrorTokenSyncing:jrpc.NewError", "srv/errors.go:ErrorTransactionNotFound:jrpc.NewError", "srv/srv.go:srv:http.Server"] := rfl

end Pegnet.C18

#print axioms Pegnet.C18.api_isolation
#print axioms Pegnet.C18.api_sees_committed_only
#print axioms Pegnet.C18.shared_state_sites
#print axioms Pegnet.C18.package_state_sites

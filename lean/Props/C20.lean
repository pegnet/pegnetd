import Pegnet.Codec
import Pegnet.Generated.Facts
import Proofs.JsonRoundTrip
/-
  C20 — Canonical encoding and exact amounts at the edges.
  Proved here: the amount parser's numeric core is exact or rejects (after the repair recorded
  in known-findings.jsonl); the structural validation of decoded batches; and, over the token-tree
  model of the fat2 decoders and encoders (Pegnet/Json, Pegnet/JsonEnc), that a batch is accepted only
  with canonical keys and that what the encoders write decodes back. `encoding/json`'s lexing and the
  address text stay outside the model; the `codec` correspondence scenario runs the model against the
  Go decoders on every generated document.
-/
namespace Pegnet.C20
open Pegnet

theorem frac_scale (p k : Nat) (hk : k ≤ 8) : p * 100000000 / 10 ^ k = p * 10 ^ (8 - k) := by
  have h : (100000000 : Nat) = 10 ^ (8 - k) * 10 ^ k := by
    rw [← Nat.pow_add]
    have : 8 - k + k = 8 := by omega
    rw [this]
  rw [h, ← Nat.mul_assoc, Nat.mul_div_cancel _ (Nat.pow_pos (by omega))]

/-- Human-readable amounts are converted to base units exactly or rejected, never silently
    altered: for a whole part `w` and `k` fraction digits of value `p`, the result is
    w·10^8 + p·10^(8-k) — and it is returned exactly when at most 8 fraction digits were given
    and that value fits in a uint64. -/
theorem amount_exact (w p k n : Nat) :
    amountCore w p k = some n ↔ (k ≤ 8 ∧ n = w * 10 ^ 8 + p * 10 ^ (8 - k) ∧ n ≤ maxUint64) := by
  have e : (10 : Nat) ^ 8 = 100000000 := by decide
  unfold amountCore maxUint64
  -- each guard that returns `none` becomes a conjunct
  simp only [Option.ite_none_left_eq_some, Option.some.injEq, e]
  by_cases hk : k ≤ 8
  · rw [frac_scale p k hk]
    omega
  · omega

/-- everything else is rejected -/
theorem amount_rejects (w p k : Nat) :
    amountCore w p k = none ↔ (k > 8 ∨ w * 10 ^ 8 + p * 10 ^ (8 - k) > maxUint64) := by
  rw [Option.eq_none_iff_forall_ne_some]
  simp only [ne_eq, amount_exact]
  constructor
  · intro h
    have := h (w * 10 ^ 8 + p * 10 ^ (8 - k))
    omega
  · intro h n
    omega

/-! the former witness of silent alteration is now rejected; boundary values -/
example : amountCore 184467440738 0 0 = none := by decide
example : amountCore 184467440737 9551615 8 = some 18446744073709551615 := by decide
example : amountCore 184467440737 9551616 8 = none := by decide
example : amountCore 1 5 1 = some 150000000 := by decide

/-! ### structural validation of a decoded batch (`Validate` / `ValidData`) -/

/-- exactly one of transfers or conversion -/
theorem transfers_xor_conversion (P : Params) (t : Tx) (hv : t.valid P = true) :
    (t.transfers.isEmpty = true ∧ t.conversion ≠ 0) ∨ (t.transfers.isEmpty = false ∧ t.conversion = 0) := by
  rcases Tx.valid_xor hv with ⟨hne, hc⟩ | ⟨he, hc⟩
  · exact .inr ⟨by simpa using hne, hc⟩
  · exact .inl ⟨by rw [he]; rfl, hc⟩

/-- input equals the sum of the transfers (no uint underflow): the subtract-with-check loop
    succeeds exactly when the running remainder never goes negative -/
theorem remaining_spec (r : Nat) (trs : List Transfer) (rem : Nat) :
    remainingAfter r trs = some rem ↔ (trs.map (·.amount)).sum + rem = r := by
  induction trs generalizing r with
  | nil =>
    simp only [remainingAfter, Option.some.injEq, List.map_nil, List.sum_nil]
    omega
  | cons x xs ih =>
    simp only [remainingAfter, Option.ite_none_left_eq_some, ih, List.map_cons, List.sum_cons]
    omega

/-- one input address per batch, amounts within int64, version 1 -/
theorem valid_batch_shape (P : Params) (e : TxEntry) (h : Nat) (v : Nat) (txs : List Tx)
    (hp : e.parsed = some (v, txs)) (hv : e.validAt P h = true) :
    v = 1 ∧ txs ≠ [] ∧ (∀ t ∈ txs, t.inAmount ≤ maxInt64) ∧ (∀ t ∈ txs, t.valid P = true) := by
  obtain ⟨_, _, hp', hd, _, hb⟩ := TxEntry.validAt_iff.1 hv
  cases hp.symm.trans hp'
  obtain ⟨h1, h2, h3, _⟩ := validData_true hd
  exact ⟨h1, h2, hb, h3⟩

/-! ### the JSON decoders (Pegnet/Json.lean), over the token tree

  `decBatch` / `decTx` / `decTyped` / `decTuple` model `UnmarshalJSON` of `TransactionBatch`,
  `Transaction`, `TypedAddressAmountTuple`, `AddressAmountTuple`; the codec scenario runs them
  against the Go decoders on every generated document. `J.WF` is the tokeniser's contract (a
  lexeme is at least two bytes longer than what it decodes to). -/

/-- **The expected-length accounting is a sound duplicate / unknown key filter.** If an object
    supplies every one of the (distinct) expected names and is no longer than an object made of
    exactly those keys, once each, with the values the decoder picked, then it has exactly those
    keys, once each, and no other — keys compared the way `encoding/json` matches them. -/
theorem length_accounting_sound (names : List String) (hnd : names.Nodup) (hne : names ≠ []) (fs : List Field)
    (hwf : ∀ f ∈ fs, Field.wf f) (vals : String → J) (hpres : ∀ n ∈ names, lookupField fs n = some (vals n))
    (hlen : J.len (.obj fs) ≤ 2 + (names.map (fun n => n.length + 3 + J.len (vals n))).sum + (names.length - 1)) :
    exactKeys names fs := by
  have e : (names.map fun n => (n, vals n)).map (·.1) = names := by
    rw [List.map_map]
    exact List.map_id _
  -- with a name at all, `2 + … + (n - 1)` counts a brace and then each field with its comma or brace
  have hlen' : J.len (.obj fs) ≤ 1 + (names.map fun n => n.length + 3 + J.len (vals n)).sum + names.length := by
    have := List.length_pos_iff.2 hne
    omega
  rw [← e]
  refine accounting_pairs _ (e.symm ▸ hnd) fs hwf (fun p hp => ?_) ?_
  · obtain ⟨n, hn, rfl⟩ := List.mem_map.1 hp
    exact hpres n hn
  · rw [List.map_map, List.length_map]
    exact hlen'

/-- **A FAT-2 batch is accepted only in canonical form.** For every document
    `TransactionBatch.UnmarshalJSON` accepts whose transactions each have transfers or a conversion
    (`Transaction.Validate`): the batch has exactly the keys `version`, `transactions`; every
    transaction exactly `input`, exactly ONE of `transfers` / `conversion` (the one its decoded form
    uses), optionally one `metadata`; every input exactly `address`, `amount`, `type` — no
    duplicate and no unknown key on any level. (Known tickers, amounts within int64, one input
    address: `valid_batch_shape`, `transfers_xor_conversion` above, on the decoded form.) -/
theorem accepted_only_in_canonical_form {P : Params} {j : J} {v : Nat} {txs : List Tx} (hwf : J.WF j)
    (h : decBatch P j = some (v, txs)) (hne : txs ≠ [])
    (hval : ∀ t ∈ txs, t.transfers ≠ [] ∨ t.isConversion P = true) :
    ∃ fs items, j = .obj fs ∧ exactKeys ["version", "transactions"] fs ∧
      lookupField fs "transactions" = some (.arr items) ∧ AllPairs (CanonicalTx P) items txs := by
  obtain ⟨fs, vj, tj, rfl, hv, ht, -, hcase, hl⟩ := decBatch_eq_some.1 h
  rcases hcase with ⟨_, he⟩ | ⟨items, rfl, hd⟩
  · exact absurd he hne
  · have hwfi : J.WFItems items := lookup_wf hwf ht
    refine ⟨fs, items, rfl, exactKeys_two (wfFields_wf hwf) (by simp) hv ht ?_, ht, decTxs_canonical hwfi hval hd⟩
    rw [key_version.length, key_transactions.length]
    omega

/-- transfer outputs: exactly `address` and `amount` -/
theorem accepted_output_keys {P : Params} {j : J} {tr : Transfer} (hwf : J.WF j) (h : decTuple P j = some tr) :
    ∃ fs, j = .obj fs ∧ exactKeys ["address", "amount"] fs := by
  obtain ⟨fs, aj, nj, rfl, ha, hn, -, -, hl⟩ := decTuple_eq_some.1 h
  refine ⟨fs, rfl, exactKeys_two (wfFields_wf hwf) (by simp) ha hn ?_⟩
  rw [key_address.length, key_amount.length]
  omega

/-- **The repaired defect (fix 85f24f7), as a theorem.** An input object without a `type` key is
    refused whatever else it contains. (Before the repair an unknown key of compensating length —
    23 characters with a one-digit value — made the length check pass with the type left at the
    invalid zero value: the soundness statement above could not be proved, and the counterexample
    the failed proof pointed at was replayed on the implementation.) -/
theorem input_without_type_is_refused (P : Params) (fs : List Field) (h : lookupField fs "type" = none) :
    decTyped P (.obj fs) = none := by
  refine Option.eq_none_iff_forall_ne_some.2 fun ⟨a, n, ty⟩ hd => ?_
  obtain ⟨_, tj, _, _, e, ht, -⟩ := decTyped_eq_some.1 hd
  cases e
  cases h.symm.trans ht

/-! executed (not kernel-checked) examples: a canonical conversion batch is accepted; the same input
    with its `type` key replaced by a padding key of compensating length is refused -/
def xP : Params :=
  { act := ⟨0,0,0,0,0,0,0,0,0,0,0,0,0,0,0,0,0⟩, tickerMax := 4, tickerNames := ["PEG", "pUSD", "pEUR"], oneWaySet := [],
    snapshotRate := 144, perBlockHolders := 0, perBlockDevs := 0, bankBase := 0, avgPeriod := 8, avgRequired := 4,
    syncVersion := 2, devs := [], «mint» := [], burnAddr := "b", oldBurnAddr := "o", mintAddr := "m", coinbaseAddr := "c", zeroAddr := "0" }
def xInput : J := .obj [("\"address\"", "address", .str "\"FA1\"" "FA1" (some "aa")), ("\"amount\"", "amount", .num "5"),
  ("\"type\"", "type", .str "\"pUSD\"" "pUSD" none)]
def xBatch : J := .obj [("\"version\"", "version", .num "1"),
  ("\"transactions\"", "transactions", .arr [.obj [("\"input\"", "input", xInput), ("\"conversion\"", "conversion", .str "\"pEUR\"" "pEUR" none)]])]
def xPadded : J := .obj [("\"address\"", "address", .str "\"FA1\"" "FA1" (some "aa")), ("\"amount\"", "amount", .num "5"),
  ("\"aaaaaaaaaaaaaaaaaaaaaaa\"", "aaaaaaaaaaaaaaaaaaaaaaa", .num "1")]
#guard (decBatch xP xBatch).isSome
#guard (decTyped xP xInput).isSome
#guard (decTyped xP xPadded).isNone
#guard J.len xPadded = 32 + J.len (.str "\"FA1\"" "FA1" none) + 1 + ("invalid token type".utf8ByteSize)

/-- **Re-encoding round-trips.** Whatever batch the encoders write (`TransactionBatch.MarshalJSON`
    refuses what `ValidData` refuses; `PTicker.MarshalJSON` refuses a ticker outside the table), the
    decoders read back as the same version and the same transactions: every input, every transfer
    output, every conversion target, in order. For every ticker table that satisfies `TickersOK`,
    every way of writing an address that decodes back to it, every amount a uint64 can hold. -/
theorem reencoding_round_trips (P : Params) (ok : TickersOK P) (al : Addr → String × String) (v : Nat) (txs : List Tx)
    (hf : Fits txs) (j : J) (he : encBatch P al v txs = some j) : decBatch P j = some (v, txs) := by
  revert he
  fun_cases encBatch P al v txs
  case case2 hvd items hitems =>
    rintro ⟨⟩
    obtain ⟨rfl, -, hall, -⟩ := validData_true hvd
    obtain ⟨hv, ht, -, hl⟩ := obj_two key_version.fold key_transactions.fold (by simp) (encNat 1) (.arr items)
    refine decBatch_eq_some.2 ⟨_, _, _, rfl, hv, ht, decUint_encNat 1 (by decide),
      .inr ⟨items, rfl, decTxs_encTxs P ok al txs items hf hall hitems⟩, ?_⟩
    rw [hl, key_version.size, key_transactions.size]
    omega
  all_goals nofun

/-- a `Params` carrying the shipped ticker table (regenerated from fat/fat2/pticker.go) -/
def shipped : Params :=
  { act := ⟨0,0,0,0,0,0,0,0,0,0,0,0,0,0,0,0,0⟩, tickerMax := Generated.tickerMax, tickerNames := Generated.tickers, oneWaySet := [],
    snapshotRate := 144, perBlockHolders := 0, perBlockDevs := 0, bankBase := 0, avgPeriod := 8, avgRequired := 4,
    syncVersion := 2, devs := [], «mint» := [], burnAddr := "b", oldBurnAddr := "o", mintAddr := "m", coinbaseAddr := "c", zeroAddr := "0" }

/-- Names with distinct byte codes are distinct. The kernel compares two numbers in a few steps; a
    comparison of two string literals re-encodes both as UTF-8 first. -/
theorem tickers_nodup : Generated.tickers.Nodup :=
  List.Pairwise.of_map (fun s => s.toByteArray.data.toList.foldl (fun a b => 256 * a + b.toNat) 0)
    (fun _ _ h e => h (e ▸ rfl)) (by decide +kernel : List.Nodup _)

theorem tickers_shape : ∀ s ∈ Generated.tickers,
    3 ≤ s.utf8ByteSize ∧ s.toList.head? ≠ some '"' ∧ s.toList.getLast? ≠ some '"' := by decide +kernel

/-- … and the shipped table does satisfy it: each of the 62 names reads back as its own ticker, is
    at least three bytes long and carries no double quote at either end — so the round trip holds
    for every parameter set that uses that table -/
theorem shipped_tickers_round_trip (P : Params) (h1 : P.tickerNames = Generated.tickers) (h2 : P.tickerMax = Generated.tickerMax) :
    TickersOK P :=
  TickersOK.of_names (h1 ▸ tickers_nodup) (by rw [h1, h2]; decide) (h1 ▸ tickers_shape)

/-- the encoder does accept something: a one-transfer batch is written and read back (non-vacuity of
    `reencoding_round_trips`, on the shipped table) -/
example : (encBatch shipped (fun a => ("\"" ++ a ++ "\"", a)) 1
      [{ inAddr := "aa", inType := 2, inAmount := 5, transfers := [{ addr := "bb", amount := 5 }], conversion := 0 }]).isSome = true := by
  decide

end Pegnet.C20

#print axioms Pegnet.C20.amount_exact
#print axioms Pegnet.C20.amount_rejects
#print axioms Pegnet.C20.transfers_xor_conversion
#print axioms Pegnet.C20.remaining_spec
#print axioms Pegnet.C20.valid_batch_shape
#print axioms Pegnet.C20.length_accounting_sound
#print axioms Pegnet.C20.accepted_only_in_canonical_form
#print axioms Pegnet.C20.accepted_output_keys
#print axioms Pegnet.C20.input_without_type_is_refused
#print axioms Pegnet.C20.reencoding_round_trips
#print axioms Pegnet.C20.shipped_tickers_round_trip

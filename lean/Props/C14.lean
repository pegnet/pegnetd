import Proofs.Payouts
import Proofs.Snapshot
import Pegnet.Generated.Facts
/-
  C14 — Holder staking payouts: snapshot minimum, proportional, capped.
-/
namespace Pegnet.C14
open Pegnet

/-- the request set the staking payout builds: one request per eligible staker, keyed by its
    position in the (sorted) list -/
def stakeReqs (txid : String) (list : List (Addr × Nat)) : List (TxKey × Nat) :=
  list.zipIdx.map fun p => (({ idx := p.2, hash := txid } : TxKey), p.1.2)

theorem stakeReqs_keys_nodup (txid : String) (list : List (Addr × Nat)) :
    ((stakeReqs txid list).map (·.1)).Nodup := by
  unfold stakeReqs
  rw [List.map_map]
  have h1 : (list.zipIdx.map (fun p => p.2)).Nodup := by
    rw [List.zipIdx_map_snd]
    exact List.nodup_range'
  have : (List.map ((fun (x : TxKey × Nat) => x.1) ∘ fun (p : (Addr × Nat) × Nat) => (({ idx := p.2, hash := txid } : TxKey), p.1.2)) list.zipIdx)
       = (list.zipIdx.map (fun p => p.2)).map (fun i => ({ idx := i, hash := txid } : TxKey)) := by
    rw [List.map_map]; rfl
  rw [this]
  exact List.Pairwise.map _ (fun a b hab hk => hab (by injection hk)) h1

theorem stakeReqs_sum (txid : String) (list : List (Addr × Nat)) :
    sumReq (stakeReqs txid list) = (list.map (·.2)).sum := by
  unfold stakeReqs sumReq
  rw [List.map_map]
  conv => rhs; rw [← List.zipIdx_map_fst 0 list, List.map_map]
  rfl

/-- The total paid at a snapshot never exceeds the cap (4,500 PEG × 144 on the main net). -/
theorem payout_cap (cap : Nat) (txid : String) (list : List (Addr × Nat)) (hc : cap ≤ maxUint64) :
    sumReq (payouts cap (stakeReqs txid list)) ≤ cap :=
  payouts_sum_le cap _ hc (stakeReqs_keys_nodup txid list)

/-- …and equals it to the last unit whenever the total stake reaches it. -/
theorem payout_exact_when_over (cap : Nat) (txid : String) (list : List (Addr × Nat)) (hc : cap ≤ maxUint64)
    (hne : list ≠ []) (hover : cap ≤ (list.map (·.2)).sum) :
    sumReq (payouts cap (stakeReqs txid list)) = cap := by
  rw [payouts_sum_min cap _ hc (stakeReqs_keys_nodup txid list), stakeReqs_sum]
  exact Nat.min_eq_right hover

/-- below the cap every staker receives exactly its stake -/
theorem payout_full_when_under (cap : Nat) (txid : String) (list : List (Addr × Nat)) (hc : cap ≤ maxUint64)
    (hunder : (list.map (·.2)).sum < cap) :
    payouts cap (stakeReqs txid list) = stakeReqs txid list :=
  payouts_fit cap _ hc (by rw [stakeReqs_sum]; exact hunder)

/-- above it, before the dust, every staker's share is ⌊stake · cap / total⌋ -/
theorem payout_proportional (cap : Nat) (txid : String) (list : List (Addr × Nat)) (hc : cap ≤ maxUint64) :
    (stakeReqs txid list).map (fun r => (r.1, payoutBig r.2 cap (sumReq (stakeReqs txid list)))) =
    (stakeReqs txid list).map (fun r => (r.1, r.2 * cap / sumReq (stakeReqs txid list))) :=
  pays_eq_shares _ cap (Nat.lt_of_le_of_lt hc maxUint64_lt_W)

/-- PEG does not count towards the stake, and a zero balance at either snapshot contributes
    nothing: the valuation of a row only looks at min(current, past) of the non-PEG assets. -/
theorem stake_uses_minimum (P : Params) (h : Nat) (rates : TMap) (cur past cur' past' : List Int)
    (hmin : ∀ t, t ≠ tPEG → min (getB cur t) (getB past t) = min (getB cur' t) (getB past' t)) :
    stakeOf P h rates cur past = stakeOf P h rates cur' past' := by
  unfold stakeOf
  -- the two folds run the same step function
  refine congrArg (fun f => List.foldl f (some 0) ((List.range (P.tickerMax - 1)).map (· + 1)))
    (funext fun acc => funext fun t => ?_)
  cases acc with
  | none => rfl
  | some total =>
    by_cases ht : (t == tPEG) = true
    · simp only [ht, if_true]
    · have hne : t ≠ tPEG := by simpa using ht
      simp only [ht, Bool.false_eq_true, if_false, hmin t hne]

/-- **When the snapshot is taken.** At a snapshot height the first thing the transaction phase of
    the block does is to rotate the snapshots: the new current snapshot is the balance table as
    it stands BEFORE the held conversions, the block's transactions and its rewards touch any
    balance, the previous current snapshot becomes the past one. -/
theorem snapshot_taken_before_block {P : Params} {c : DB} {b : Block} {avgs : TMap} {ra : Bool} {s s' : DB}
    (hr : txPhase P c b avgs ra s = .ok () s') (htx : b.height ≥ P.act.txConv)
    (hdue : b.height ≥ P.act.v20 ∧ b.height % P.snapshotRate = 0) :
    ∃ s1, snapshotPhase P b s = .ok () s1 ∧ s1.snapCur = s.addrs ∧ s1.snapPast = s.snapCur := by
  unfold txPhase at hr
  rw [if_pos htx] at hr
  obtain ⟨_, s1, h1, _⟩ := M.bind_ok hr
  refine ⟨s1, h1, ?_⟩
  unfold snapshotPhase at h1
  simp only [hdue, and_self, if_true] at h1
  rw [M.get_bind] at h1
  exact snapshotPayouts_rotates h1

/-- Cadence: off the snapshot heights (before 2.0, or not a multiple of the snapshot rate) the
    step does nothing at all — no rotation, no payout. -/
theorem no_payout_off_cadence (P : Params) (b : Block) (s : DB)
    (h : ¬ (b.height ≥ P.act.v20 ∧ b.height % P.snapshotRate = 0)) : snapshotPhase P b s = .ok () s := by
  unfold snapshotPhase
  simp [h]

/-- A joined row carries exactly the two balance vectors of its address: an address is considered
    for the staking payout only if it has a row in BOTH snapshots. -/
theorem joined_row_is_both_snapshots {cur past : List AddrRow} {x : Addr × List Int × List Int}
    (hx : x ∈ joinSnapshots cur past) :
    (∃ c ∈ cur, c.addr = x.1 ∧ c.bals = x.2.1) ∧ (∃ p ∈ past, p.addr = x.1 ∧ p.bals = x.2.2) := by
  unfold joinSnapshots at hx
  obtain ⟨c, hc, hm⟩ := List.mem_filterMap.1 hx
  cases hf : findRow past c.addr with
  | none => rw [hf] at hm; cases hm
  | some p =>
    rw [hf] at hm
    simp only [Option.some.injEq] at hm
    subst hm
    exact ⟨⟨c, hc, rfl, rfl⟩, ⟨p, List.mem_of_find?_eq_some hf, findRow_addr hf, rfl⟩⟩

/-- **An address absent from either snapshot is not paid**: the stakers are taken from the inner
    join of the two snapshots on the address. -/
theorem absent_not_paid {cur past : List AddrRow} {a : Addr} :
    ((∀ p ∈ past, p.addr ≠ a) → ∀ x ∈ joinSnapshots cur past, x.1 ≠ a) ∧
    ((∀ c ∈ cur, c.addr ≠ a) → ∀ x ∈ joinSnapshots cur past, x.1 ≠ a) :=
  ⟨fun ha x hx he => by
      obtain ⟨_, p, hp, hpa, _⟩ := joined_row_is_both_snapshots hx
      exact ha p hp (hpa.trans he),
    fun ha x hx he => by
      obtain ⟨⟨c, hc, hca, _⟩, _⟩ := joined_row_is_both_snapshots hx
      exact ha c hc (hca.trans he)⟩

/-- the regenerated constants: 4,500 PEG per block for holders, snapshots every 144 blocks -/
theorem staking_constants : Generated.perBlockAssetHolders = 450000000000 ∧ Generated.snapshotRate = 144 ∧
    Generated.perBlockAssetHolders * Generated.snapshotRate ≤ maxUint64 := by decide

/-- **The staking payout, for every address and asset.** When the snapshot step of a block
    succeeds: the stakers are the addresses present in BOTH snapshots (inner join of the balance
    table as it stood before the block with the previous snapshot), each valued by `stakeOf` —
    min(current, previous) of every non-PEG asset, in pUSD; the stakers with a positive stake, in
    the deterministic order, are credited in PEG exactly their `Payouts` share of 4,500 PEG × 144
    (`payout_cap`, `payout_exact_when_over`, `payout_full_when_under`, `payout_proportional` say what
    those shares are); no other balance of anybody changes. -/
theorem staking_payout_exact (P : Params) (h : Nat) (ts : Int) (rates : TMap) (order : List Addr) (s s' : DB)
    (hr : snapshotPayouts P h ts rates order s = .ok () s') :
    ∃ staked, stakesOf P h rates (joinSnapshots s.addrs s.snapCur) = some staked ∧
      let list := orderStakes order (staked.filter (fun p => decide (p.2 > 0)))
      let pays := payouts (P.perBlockHolders * P.snapshotRate) (stakeReqs (txidOfHeight h) list)
      ∀ a x, s'.bal a x = s.bal a x + (if x = tPEG then stakingCredit a (list.zip pays) else 0) := by
  obtain ⟨staked, hl, hp⟩ := snapshotPayouts_ok hr
  refine ⟨staked, hl, fun a x => (((payStakes_moves P h ts _).of_ok trivial hp).2 (a, x)).trans ?_⟩
  show s.bal a x + _ = _
  by_cases hx : x = tPEG
  · simp only [cell, hx, and_true, if_true, stakingCredit, stakeReqs]
  · simp only [cell, hx, and_false, if_false, List.sum_map_zero]

/-- an address that is not among the valued stakers receives nothing -/
theorem non_staker_not_credited (a : Addr) (lp : List ((Addr × Nat) × (TxKey × Nat)))
    (hna : ∀ p ∈ lp, p.1.1 ≠ a) : stakingCredit a lp = 0 :=
  (congrArg List.sum (List.map_congr_left fun p hp => if_neg fun e => hna p hp e.symm)).trans (List.sum_map_zero lp)

/-- the shipped schedule, regenerated from config/activations.go and fat/fat2/activations.go on every
    run, against the values this property was read with: the heights from which snapshots pay stakers and an unrated snapshot block borrows rates. Every scenario of the harness
    runs on a compressed schedule that overwrites these constants, so nothing else would notice one of
    them moving; a moved height is a different protocol, not a rewrite. -/
theorem shipped_schedule :
    let a := Generated.activations
    Generated.activationsComplete = true ∧ a.v20 = 258796 ∧ a.v202 = 274036 := by
  decide
end Pegnet.C14

#print axioms Pegnet.C14.stakeReqs_keys_nodup
#print axioms Pegnet.C14.payout_cap
#print axioms Pegnet.C14.payout_exact_when_over
#print axioms Pegnet.C14.payout_full_when_under
#print axioms Pegnet.C14.payout_proportional
#print axioms Pegnet.C14.stake_uses_minimum
#print axioms Pegnet.C14.staking_constants
#print axioms Pegnet.C14.snapshot_taken_before_block
#print axioms Pegnet.C14.no_payout_off_cadence
#print axioms Pegnet.C14.absent_not_paid
#print axioms Pegnet.C14.joined_row_is_both_snapshots
#print axioms Pegnet.C14.staking_payout_exact
#print axioms Pegnet.C14.non_staker_not_credited
#print axioms Pegnet.C14.shipped_schedule


import Proofs.LivenessBank
import Pegnet.Generated.Facts
/-
  C16 — PEG conversion bank (legacy era): limit, proportional yield, refund.
  Statements are about `payouts` / `refund`, the model functions the correspondence check runs
  against `ConversionSupplySet.Payouts` / `conversions.Refund`.
-/
namespace Pegnet.C16
open Pegnet

/-- The PEG created by the conversions of one block never exceeds that block's bank. -/
theorem bank_limit (bank : Nat) (reqs : List (TxKey × Nat)) (hb : bank ≤ maxUint64)
    (hn : (reqs.map (·.1)).Nodup) : sumReq (payouts bank reqs) ≤ bank :=
  payouts_sum_le bank reqs hb hn

/-- Each request receives its full amount if the total fits under the bank. -/
theorem full_if_fits (bank : Nat) (reqs : List (TxKey × Nat)) (hb : bank ≤ maxUint64)
    (hfit : sumReq reqs < bank) : payouts bank reqs = reqs :=
  payouts_fit bank reqs hb hfit

/-- Otherwise the whole bank is paid out, to the last unit. -/
theorem exact_when_over (bank : Nat) (reqs : List (TxKey × Nat)) (hb : bank ≤ maxUint64)
    (hn : (reqs.map (·.1)).Nodup) (hne : reqs ≠ []) (hover : bank ≤ sumReq reqs) :
    sumReq (payouts bank reqs) = bank := by
  rw [payouts_sum_min bank reqs hb hn]
  exact Nat.min_eq_right hover

/-- …and before the dust every request gets its proportional share ⌊c·bank/total⌋. -/
theorem proportional_otherwise (bank : Nat) (reqs : List (TxKey × Nat)) (hb : bank ≤ maxUint64) :
    reqs.map (fun r => (r.1, payoutBig r.2 bank (sumReq reqs))) =
    reqs.map (fun r => (r.1, r.2 * bank / sumReq reqs)) :=
  pays_eq_shares reqs bank (Nat.lt_of_le_of_lt hb maxUint64_lt_W)

/-- payouts are reported for exactly the requesting txids, in order -/
theorem same_requesters (bank : Nat) (reqs : List (TxKey × Nat)) :
    (payouts bank reqs).map (·.1) = reqs.map (·.1) := payouts_keys bank reqs

/-- Yield plus refund never exceed the value of the input:
    yield·pegRate + refund·srcRate ≤ input·srcRate, whenever the yield is at most the full yield
    ⌊input·srcRate/pegRate⌋ (which `payouts` guarantees: a payout never exceeds its request
    when the bank is the binding limit, and equals it otherwise). -/
theorem refund_value (pip10 h : Nat) (input yield : Int) (srcR pegR : Nat)
    (hin : 0 ≤ input)
    (hy : yield ≤ convertD pip10 h input srcR srcR pegR pegR) :
    yield * (pegR : Int) + refund pip10 h input yield srcR pegR * (srcR : Int) ≤ input * (srcR : Int) :=
  -- the refund is worth at most the part of the full yield that was not paid
  calc _ ≤ yield * (pegR : Int) + (convertD pip10 h input srcR srcR pegR pegR - yield) * (pegR : Int) :=
        Int.add_le_add_left (convertD_value_le pip10 h _ pegR pegR srcR srcR (Int.sub_nonneg.2 hy)) _
    _ = convertD pip10 h input srcR srcR pegR pegR * (pegR : Int) := by rw [← Int.add_mul, Int.add_comm, Int.sub_add_cancel]
    _ ≤ _ := convertD_value_le pip10 h input srcR srcR pegR pegR hin

/-- **The PEG created by the conversions of one block never exceeds that block's bank — at the
    level of the ledger.** Whenever the bank pass of a block completes and everything handed to it
    is a genuine PEG request, the PEG supply has grown by exactly the sum of the payouts computed by
    `ConversionSupplySet.Payouts` on the requests, and that sum is at most the bank. (Batches that
    mix a PEG request with other transactions are excluded: the recorded finding.) -/
theorem block_peg_creation_within_bank (P : Params) (h : Nat) (rates avgs : TMap) (batches : List TxEntry)
    (bank : Nat) (bankHeight : Int) (s s' : DB) (hok : AddrsOK s) (hb : bank ≤ maxUint64)
    (hall : ∀ r ∈ pegRequests P h rates avgs batches, r.tx.conversion = tPEG ∧ r.tx.inType ≠ tPEG)
    (hr : recordPegRequests P h rates avgs batches bank bankHeight s = .ok () s') :
    s'.supply tPEG = s.supply tPEG +
      (sumReq (payouts bank ((pegRequests P h rates avgs batches).map fun r => (r.key, r.requested))) : Int) ∧
    sumReq (payouts bank ((pegRequests P h rates avgs batches).map fun r => (r.key, r.requested))) ≤ bank := by
  have hkeys := (recordPegRequests_ok hr).1
  obtain ⟨_, hs⟩ := (recordPegRequests_adds supplyLedger P h rates avgs batches bank bankHeight).of_ok hok hr
  generalize pegRequests P h rates avgs batches = reqs at hall hkeys hs ⊢
  have hk : (reqs.map fun r => (r.key, r.requested)).map (·.1) = reqs.map (·.key) := by
    rw [List.map_map]
    rfl
  have hlen : reqs.length = (payouts bank (reqs.map fun r => (r.key, r.requested))).length := by
    have := congrArg List.length (payouts_keys bank (reqs.map fun r => (r.key, r.requested)))
    simpa using this.symm
  refine ⟨?_, ?_⟩
  · -- every request converts into PEG from another asset: its yield is the only credit in PEG
    rw [hs tPEG, ← sum_zip_snd reqs _ hlen]
    refine congrArg (s.supply tPEG + ·) (congrArg List.sum (List.map_congr_left fun rp hrp => ?_))
    obtain ⟨hc, hsrc⟩ := hall rp.1 (List.of_mem_zip hrp).1
    simp [col, hc, hsrc]
  · exact payouts_sum_le bank _ hb (hk ▸ (hasDupKey_false_iff _).1 hkeys)

/-- **The bank ledger records the amount used and requested for the block**: in the bank-table
    era the row of the block gets `used` = the sum of the yields handed out and `requested` = the
    total requested; `amount` and every other row stay as they were. -/
theorem bank_row_records_used_and_requested (P : Params) (h : Nat) (rates avgs : TMap) (batches : List TxEntry)
    (bank : Nat) (bankHeight : Int) (s s' : DB) (hv4 : bankHeight ≥ (P.act.v4 : Int))
    (hr : recordPegRequests P h rates avgs batches bank bankHeight s = .ok () s') :
    let reqs := (pegRequests P h rates avgs batches).map fun r => (r.key, r.requested)
    s'.bank = s.bank.map (fun r => if r.height == bankHeight then
      { r with used := ((payouts bank reqs).map (fun p => toInt64 p.2)).sum, requested := toInt64 (totalRequested reqs) } else r) := by
  obtain ⟨_, s1, hl, hu⟩ := recordPegRequests_ok hr
  rw [if_pos hv4] at hu
  have hb : s1.bank = s.bank := (Step.forEach fun (rp : PegReq × TxKey × Nat) => payPegReq_keeps_bank P h rates rp.1 rp.2.2).ok hl
  rw [(M.guarded_ok hu).2, ← hb]

/-! non-vacuity -/
example : payouts 100 [(⟨0, "aa"⟩, 60), (⟨1, "aa"⟩, 60)] = [(⟨0, "aa"⟩, 50), (⟨1, "aa"⟩, 50)] := by decide
example : payouts 100 [(⟨0, "bb"⟩, 70), (⟨0, "aa"⟩, 70), (⟨1, "aa"⟩, 10)] =
    [(⟨0, "bb"⟩, 46), (⟨0, "aa"⟩, 48), (⟨1, "aa"⟩, 6)] := by decide   -- 2 units of dust to the lowest txid among the top
example : refund 1000 5 199 1 1 100 = 0 := by decide

/-- **"The unconverted part of the input is refunded in the source asset"**: paying one request
    credits the requesting address with the yield in PEG and with
    `Refund(input, yield) = ⌊(⌊in·src/peg⌋ − yield)·peg/src⌋` in the source asset — to nobody else,
    in no other asset — and the request's history row records exactly that yield and that refund. -/
theorem request_paid_and_refunded_exactly (P : Params) (h : Nat) (rates : TMap) (rq : PegReq) (y : Nat) (s s' : DB)
    (hr : payPegReq P h rates rq y s = .ok () s') :
    (∀ a x, s'.bal a x = s.bal a x + pegDelta P h rates rq y a x) ∧
    ∀ r ∈ s'.histT, r.hash = rq.key.hash → r.txIndex = (rq.key.idx : Int) →
      r.toAmount = toInt64 y ∧
      r.outputs = renderOutputs [(rq.tx.inAddr,
        refund P.act.pip10 h (toInt64 rq.tx.inAmount) (toInt64 y) (rates.get rq.tx.inType) (rates.get rq.tx.conversion))] := by
  refine ⟨?_, pegRequest_row_records_payment P h rates rq y s s' hr⟩
  have := payPegReq_exact P h rates rq y s
  rw [hr] at this
  exact this

/-- the whole pass: every request of the block gets its `Payouts` share and its refund -/
theorem bank_pass_pays_and_refunds_exactly (P : Params) (h : Nat) (rates avgs : TMap) (batches : List TxEntry)
    (bank : Nat) (bh : Int) (s : DB) :
    Outcome (recordPegRequests P h rates avgs batches bank bh s)
      (fun _ s' => ∀ a x, s'.bal a x = s.bal a x +
        (((pegRequests P h rates avgs batches).zip
            (payouts bank ((pegRequests P h rates avgs batches).map fun r => (r.key, r.requested)))).map
          (fun rp => pegDelta P h rates rp.1 rp.2.2 a x)).sum) :=
  recordPegRequests_exact P h rates avgs batches bank bh s

/-- **The bank pass never fails** when every transaction of the batches that joined it is a
    conversion into a known asset (a genuine PEG request is one) with distinct (entry, index) keys,
    the bank fits in an int64 and — in the bank-table era — the block's bank row exists: every
    request is paid its share (at most the bank) and refunded, the bank row is updated. The excluded
    shape — a TRANSFER inside a batch that also holds a PEG request — is the recorded C08 finding. -/
theorem bank_pass_never_fails (P : Params) (h : Nat) (rates avgs : TMap) (batches : List TxEntry)
    (bank : Nat) (bh : Int) (s : DB)
    (hkeys : hasDupKey ((pegRequests P h rates avgs batches).map (·.key)) = false)
    (hconv : ∀ r ∈ pegRequests P h rates avgs batches, validTicker P r.tx.conversion = true ∧ validTicker P r.tx.inType = true)
    (hbank : bank ≤ maxInt64)
    (hrow : bh ≥ (P.act.v4 : Int) → s.bank.any (·.height == bh) = true) :
    ∃ s', recordPegRequests P h rates avgs batches bank bh s = .ok () s' :=
  recordPegRequests_never_fails P h rates avgs batches bank bh s hkeys hconv hbank hrow

/-- the same with the natural hypothesis: the batches that joined the pass have distinct entry
    hashes (the holding table has one row per entry: `C06.held_at_most_once`) -/
theorem bank_pass_never_fails_distinct_entries (P : Params) (h : Nat) (rates avgs : TMap) (batches : List TxEntry)
    (bank : Nat) (bh : Int) (s : DB)
    (hdist : (batches.map (·.hash)).Nodup)
    (hconv : ∀ r ∈ pegRequests P h rates avgs batches, validTicker P r.tx.conversion = true ∧ validTicker P r.tx.inType = true)
    (hbank : bank ≤ maxInt64)
    (hrow : bh ≥ (P.act.v4 : Int) → s.bank.any (·.height == bh) = true) :
    ∃ s', recordPegRequests P h rates avgs batches bank bh s = .ok () s' :=
  recordPegRequests_never_fails P h rates avgs batches bank bh s (pegRequests_no_dup P h rates avgs batches hdist) hconv hbank hrow

/-- with distinct keys no request is ever paid more than the bank -/
theorem no_request_paid_more_than_the_bank (bank : Nat) (reqs : List (TxKey × Nat)) (hb : bank ≤ maxUint64)
    (hn : (reqs.map (·.1)).Nodup) : ∀ p ∈ payouts bank reqs, p.2 ≤ bank :=
  payout_le_bank bank reqs hb hn

/-- the shipped schedule, regenerated from config/activations.go and fat/fat2/activations.go on every
    run, against the values this property was read with: the heights that bound the bank era and switch it to the bank table. Every scenario of the harness
    runs on a compressed schedule that overwrites these constants, so nothing else would notice one of
    them moving; a moved height is a different protocol, not a rewrite. -/
theorem shipped_schedule :
    let a := Generated.activations
    Generated.activationsComplete = true ∧ a.convLimit = 222270 ∧ a.v4 = 231620 ∧ a.v20 = 258796 := by
  decide
/-- the bank a block starts with (regenerated): 5,000 PEG -/
theorem shipped_bank : Generated.bankBaseAmount = 500000000000 := by
  decide
end Pegnet.C16

#print axioms Pegnet.C16.bank_limit
#print axioms Pegnet.C16.full_if_fits
#print axioms Pegnet.C16.exact_when_over
#print axioms Pegnet.C16.proportional_otherwise
#print axioms Pegnet.C16.same_requesters
#print axioms Pegnet.C16.refund_value
#print axioms Pegnet.C16.block_peg_creation_within_bank
#print axioms Pegnet.C16.bank_row_records_used_and_requested
#print axioms Pegnet.C16.request_paid_and_refunded_exactly
#print axioms Pegnet.C16.bank_pass_pays_and_refunds_exactly
#print axioms Pegnet.C16.bank_pass_never_fails
#print axioms Pegnet.C16.no_request_paid_more_than_the_bank
#print axioms Pegnet.C16.bank_pass_never_fails_distinct_entries
#print axioms Pegnet.C16.shipped_schedule
#print axioms Pegnet.C16.shipped_bank



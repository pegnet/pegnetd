import Proofs.RestartAvg
import Pegnet.Generated.Facts
/-
  C02 — Per-block atomicity and crash consistency of the balance store.
  In the model a block is one function `DB → Res DB`; what the theorems add is that its result is
  all-or-nothing, that the height bump is part of it, that a height cannot be applied twice, and
  (regenerated from the source) that no write of the sync path bypasses the block transaction.
-/
namespace Pegnet.C02
open Pegnet

/-- A block is applied completely or not at all: either the committed database is untouched
    (and a failure is reported), or it is the result of the complete block transaction. -/
theorem block_all_or_nothing (P : Params) (n : Node) (b : Block) :
    ((applyBlock P n b).1.db = n.db) ∨
    (∃ s' avgs, blockTx P { n.db with avgTouched := false } b avgs { n.db with avgTouched := false } = .ok () s' ∧
      (applyBlock P n b).1.db = { s' with avgTouched := false } ∧ (applyBlock P n b).2 = none) := by
  rcases applyBlock_cases P n b with ⟨_, _, h, _⟩ | ⟨s', avgs, hs, hdb, hn, _⟩
  · exact Or.inl h
  · exact Or.inr ⟨s', avgs, hs, hdb, hn⟩

/-- a reported failure means nothing of the block was committed -/
theorem failure_commits_nothing (P : Params) (n : Node) (b : Block) (e : Failure)
    (hf : (applyBlock P n b).2 = some e) : (applyBlock P n b).1.db = n.db :=
  applyBlock_failed hf

/-- Heights are applied once each: a block whose height already has a version row cannot be
    committed again (the PRIMARY KEY on `pn_sync_version.height` makes the bump fail, and the
    bump is part of the block transaction). -/
theorem height_applied_once (P : Params) (n : Node) (b : Block) (v : Int)
    (hrow : (b.height, v) ∈ n.db.syncVersions) : (applyBlock P n b).2 ≠ none := by
  intro hnone
  rcases applyBlock_cases P n b with ⟨e, he, _⟩ | ⟨s', avgs, hs, _⟩
  · rw [he] at hnone; cases hnone
  · exact (blockTx_bump hs).1 _ hrow rfl

/-- a committed block records its own height as the sync height, in the same transaction -/
theorem commit_bumps_height (P : Params) (c : DB) (b : Block) (avgs : TMap) (s s' : DB)
    (hs : blockTx P c b avgs s = .ok () s') :
    s'.synced = some b.height ∧ (b.height, P.syncVersion) ∈ s'.syncVersions := by
  obtain ⟨_, hsv, hsy⟩ := blockTx_bump hs
  exact ⟨hsy, by rw [hsv]; exact List.mem_append_right _ (List.mem_singleton.2 rfl)⟩

/-- Regenerated from /repo on every run: no SQL write of the sync path goes through the
    connection pool (every one uses the block's `*sql.Tx`), and the reads that do use the pool
    are exactly the known ones (each reads rows older than the block). -/
theorem all_writes_via_block_tx :
    Generated.poolWrites = [] ∧
    Generated.poolReadsSyncPath =
      ["node/pegnet/addresses.go:IsIncludedTopPEGAddress:pool:SELECT:p.DB",
       "node/pegnet/addresses.go:SelectBalances:pool-arg:p.selectBalances",
       "node/pegnet/addresses.go:SelectIssuances:pool:SELECT:p.DB",
       "node/pegnet/grading.go:SelectPreviousWinners:pool:SELECT:p.DB",
       "node/pegnet/grading.go:SelectRates:pool:SELECT:p.DB",
       "node/pegnet/txbatchholding.go:SelectTransactionBatchesInHoldingAtHeight:pool:SELECT:p.DB"] :=
  ⟨rfl, rfl⟩

/-! ### the daemon as a process (Proofs/Process.lean)

  A run is any sequence of: a loop iteration that completes (commit or rollback), an iteration cut
  short before COMMIT by a fault or a kill (nothing committed — the SQLite assumption), a restart.
  The block attempted is always the chain's block at `Sync.Synced + 1`. -/

/-- **Heights are applied once each, in order, without gaps** (`InOrder`), along every run from any
    database being resumed whose bookkeeping is consistent, whatever the blocks contain and wherever the
    process is killed or restarted -/
theorem heights_once_in_order_from (P : Params) (ch : Nat → Block) (hch : ∀ h, (ch h).height = h) (n₀ : Node)
    (hs : n₀.db.synced.getD P.act.pegnet = n₀.mem) (hle : ∀ r ∈ n₀.db.syncVersions, r.1 ≤ n₀.mem)
    (hn : (n₀.db.syncVersions.map (·.1)).Nodup) (es : List Ev) :
    InOrder P n₀.mem (runEvs P ch n₀ es) :=
  runEvs_inOrder P ch hch n₀.mem es n₀ (inOrder_start P n₀ hs hle hn)

/-- …in particular along every run from a fresh database: above
    the activation height the version table lists exactly `pegnet+1, …, Synced`, in this order,
    each once; no row lies above the sync height; the recorded height is the in-memory one. -/
theorem heights_once_in_order (P : Params) (ch : Nat → Block) (hch : ∀ h, (ch h).height = h) (es : List Ev) :
    let n := runEvs P ch (freshNode P) es
    n.db.synced.getD P.act.pegnet = n.mem ∧
    heightsAbove P.act.pegnet n.db.syncVersions = List.range' (P.act.pegnet + 1) (n.mem - P.act.pegnet) ∧
    (n.db.syncVersions.map (·.1)).Nodup ∧ (∀ r ∈ n.db.syncVersions, r.1 ≤ n.mem) := by
  have h := heights_once_in_order_from P ch hch (freshNode P) rfl nofun List.nodup_nil es
  exact ⟨h.synced, h.rows, h.nodup, h.rows_le⟩

/-- **Crash consistency.** Iterations cut short before COMMIT (a kill, a failed statement, a
    failed upstream request) leave no trace, at any height: the database and the sync height after
    a run are those of the same run with these iterations erased. (`ValidRun`: an aborted
    iteration can only have advanced the averaging cache if the complete one would.) -/
theorem killed_iterations_leave_no_trace (P : Params) (ch : Nat → Block) (n : Node) (es : List Ev)
    (hv : ValidRun P ch n es) :
    (runEvs P ch n es).db = (runEvs P ch n (es.filter (fun e => !e.isAborted))).db ∧
    (runEvs P ch n es).mem = (runEvs P ch n (es.filter (fun e => !e.isAborted))).mem :=
  aborted_erasable_all P ch es n n (.refl n) hv

/-- **Resume equals uninterrupted run** (below the PIP-10 activation, where the only in-memory
    consensus input — the averaging cache, see C09 — is not consulted): erase every kill, fault
    and restart from a run; the ledger (all tables; the version table up to the legacy back-fill
    rows a restart writes) and the sync height are unchanged, and what remains is the plain replay
    of consecutive blocks. -/
theorem resume_equals_uninterrupted_partial (P : Params) (ch : Nat → Block) (hch : ∀ h, (ch h).height = h)
    (es : List Ev) (hb : BelowPip10 P ch (freshNode P) es) :
    (runEvs P ch (freshNode P) es).db.ledger = (runEvs P ch (freshNode P) (es.filter Ev.isAttempt)).db.ledger ∧
    (runEvs P ch (freshNode P) es).mem = (runEvs P ch (freshNode P) (es.filter Ev.isAttempt)).mem :=
  only_attempts_matter P ch hch (freshNode P).mem es (freshNode P) (freshNode P) [] rfl rfl
    (inOrder_fresh P) (inOrder_fresh P) hb

/-- **Resume equals uninterrupted run, at every height** — above the PIP-10 activation too, where
    the averaging cache prices conversions — on runs none of whose averaging windows has a hole
    (`WholeRun`, Proofs/RestartAvg; C09 shows that a hole is exactly what breaks it): erase every
    kill, fault and restart; ledger and sync height are unchanged. -/
theorem resume_equals_uninterrupted_whole_windows (P : Params) (hp : 0 < P.avgPeriod) (ch : Nat → Block)
    (hch : ∀ h, (ch h).height = h) (es : List Ev) (hw : WholeRun P ch (freshNode P) es) :
    (runEvs P ch (freshNode P) es).db.ledger = (runEvs P ch (freshNode P) (es.filter Ev.isAttempt)).db.ledger ∧
    (runEvs P ch (freshNode P) es).mem = (runEvs P ch (freshNode P) (es.filter Ev.isAttempt)).mem :=
  only_attempts_matter_whole P hp ch hch (freshNode P).mem es (freshNode P) (freshNode P) [] rfl rfl
    (inOrder_fresh P) (inOrder_fresh P)
    (cacheGood_fresh P) (cacheGood_fresh P) hw

/-- non-vacuity: a run with a kill, a restart and two completed iterations -/
example : [Ev.attempt, .aborted true, .restart, .attempt].filter Ev.isAttempt = [.attempt, .attempt] := rfl

end Pegnet.C02

#print axioms Pegnet.C02.block_all_or_nothing
#print axioms Pegnet.C02.failure_commits_nothing
#print axioms Pegnet.C02.height_applied_once
#print axioms Pegnet.C02.commit_bumps_height
#print axioms Pegnet.C02.all_writes_via_block_tx
#print axioms Pegnet.C02.heights_once_in_order
#print axioms Pegnet.C02.heights_once_in_order_from
#print axioms Pegnet.C02.killed_iterations_leave_no_trace
#print axioms Pegnet.C02.resume_equals_uninterrupted_partial
#print axioms Pegnet.C02.resume_equals_uninterrupted_whole_windows

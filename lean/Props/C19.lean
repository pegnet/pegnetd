import Proofs.VersionLock
import Pegnet.Generated.Facts
/-
  C19 — Version lock: a database synced across a hard fork by an old build is refused.
-/
namespace Pegnet.C19
open Pegnet

/-- Start-up is refused exactly when, among the version rows after the legacy back-fill,
    some fork the database has reached has a row at or above its height with a version below the
    fork's minimum (no such row at all counts as version −1), or some row carries a version
    newer than the build that is starting. For every fork table, build version and row set. -/
theorem hardfork_check_iff (forks : List (Nat × Int)) (cur : Int) (synced : Option Nat) (rows : VRows) :
    (checkHardForks forks cur synced rows).2 = true ↔
      (∃ f ∈ forks, f.1 ≤ highestSynced (backfill forks synced rows) ∧
        ((∃ r ∈ backfill forks synced rows, r.1 ≥ f.1 ∧ r.2 < f.2) ∨
         ((∀ r ∈ backfill forks synced rows, r.1 < f.1) ∧ -1 < f.2)))
      ∨ (∃ r ∈ backfill forks synced rows, cur < r.2)
      ∨ (backfill forks synced rows = [] ∧ cur < -1) := by
  unfold checkHardForks
  simp only [Bool.or_eq_true, List.any_eq_true, Bool.and_eq_true, decide_eq_true_eq,
    maxVersionFrom_zero_gt_iff, minVersionFrom_lt_iff]

/-- the rows `CheckHardForks` leaves behind are the back-filled rows -/
theorem rows_after (forks : List (Nat × Int)) (cur : Int) (synced : Option Nat) (rows : VRows) :
    (checkHardForks forks cur synced rows).1 = backfill forks synced rows := rfl

/-- without recorded sync height, or when every synced height already has a version row
    (the database was created by a build with version tracking), nothing is back-filled -/
theorem no_backfill (forks : List (Nat × Int)) (rows : VRows) (synced : Option Nat)
    (h : synced = none ∨ ∃ s, synced = some s ∧ s ≤ lowestSynced rows) :
    backfill forks synced rows = rows := by
  unfold backfill
  rcases h with h | ⟨s, hs, hle⟩
  · subst h
    rfl
  · subst hs
    exact if_neg (Nat.not_lt.2 hle)

/-- Databases synced entirely with adequate builds are always accepted: if every row has a
    version at least the minimum of every fork at or below its height and at most the starting
    build's version (and there is at least one row), the check passes. -/
theorem adequate_always_accepted (forks : List (Nat × Int)) (cur : Int) (synced : Option Nat) (rows : VRows)
    (hne : backfill forks synced rows ≠ [])
    (hfork : ∀ f ∈ forks, ∀ r ∈ backfill forks synced rows, r.1 ≥ f.1 → f.2 ≤ r.2)
    (hreach : ∀ f ∈ forks, f.1 ≤ highestSynced (backfill forks synced rows) →
        ∃ r ∈ backfill forks synced rows, r.1 ≥ f.1)
    (hcur : ∀ r ∈ backfill forks synced rows, r.2 ≤ cur) :
    (checkHardForks forks cur synced rows).2 = false :=
  checkHardForks_accepts forks cur synced rows hne hfork hcur

/-- regenerated facts: the build's own fork table starts with the catch-all (0, −1) and its
    sync version is at least every fork's minimum (so a database synced only by this build is
    accepted by this build). -/
theorem shipped_table_sane :
    Generated.forks.head? = some (0, -1) ∧ Generated.forks.all (fun f => decide (f.2 ≤ Generated.syncVersion)) = true := by
  decide

/-! non-vacuity and concrete behaviour -/
example : (checkHardForks [(0, -1), (5, 1)] 1 (some 7) [(6, 0), (7, 1)]).2 = true := by decide   -- height 6 ≥ fork 5 synced by v0 < 1
example : (checkHardForks [(0, -1), (5, 1)] 1 (some 7) [(6, 1), (7, 1)]).2 = true := by decide   -- heights ≤ 5 predate tracking: back-fill −1 at 5
example : (checkHardForks [(0, -1), (5, 1)] 1 (some 7) [(1,1),(2,1),(3,1),(4,1),(5,1),(6, 1), (7, 1)]).2 = false := by decide
example : (checkHardForks [(0, -1)] 1 (some 2) [(1, 1), (2, 2)]).2 = true := by decide            -- downgrade

end Pegnet.C19

#print axioms Pegnet.C19.hardfork_check_iff
#print axioms Pegnet.C19.rows_after
#print axioms Pegnet.C19.no_backfill
#print axioms Pegnet.C19.adequate_always_accepted
#print axioms Pegnet.C19.shipped_table_sane

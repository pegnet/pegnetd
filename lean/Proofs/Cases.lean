import Proofs.Hoare
import Proofs.Validate
import Proofs.ListFold
/-
  What the branching functions of the batch path do: `pass1Tx` (`pass1Tx_cases`), `pass1` (a `findSome?`),
  `pass2` (`pass2_cons`, with `creditOf`; `pass2_cases`), `verdict` (`verdict_cons`), `recordHistory` (`recordHistory_eq`),
  `applyBatch`, `applyTxEntry`, `applyHeld` (`X_run`: which branch runs, as an equation); and of the block,
  `preAdjust` and `sprPass`. Proofs about runs
  of these functions rewrite with the lemmas here; the definitions are unfolded again where a proof follows the
  program text itself (Proofs/Frame: `Built`; Proofs/AvgIrrelevant: congruence in the averages; `C13.admitSpec`).
-/
namespace Pegnet

/-- what a pass answers when it stops a batch: never `apply`, and a reject code is negative -/
def Verdict.stops : Verdict → Prop
  | .apply => False
  | .reject c => c < 0
  | _ => True

theorem pass1Tx_cases {P : Params} {h : Nat} {bal : Ticker → Int} {rates avgs : Option TMap} {t : Tx} {r : Option Verdict}
    (hv : pass1Tx P h bal rates avgs t = r) :
    match (generalizing := false) r with
    | some v => v.stops ∧ (t.isConversion P = false → v = .reject (-1)) ∧
      ((t.isConversion P = true → ∃ r, rates = some r ∧ r.isEmpty = false) → ∀ f, v ≠ .failBlock f)
    | none => (t.inAmount : Int) ≤ bal t.inType ∧ (t.isConversion P = true → ∃ out, convOf P h rates avgs t = some out) := by
  cases hv
  have neg : ∀ c : Int, c < 0 → (Verdict.reject c).stops := fun _ hc => hc
  -- past the balance test only a transfer could be told `reject (-1)`
  have hx : t.isConversion P = true → ∀ w : Verdict, t.isConversion P = false → w = .reject (-1) :=
    fun hc _ hf => by rw [hc] at hf; cases hf
  fun_cases pass1Tx P h bal rates avgs t
  case case1 => exact ⟨neg _ (by decide), fun _ => rfl, fun _ _ => nofun⟩
  case case2 hc => exact ⟨trivial, hx hc _, fun hr => by obtain ⟨_, hr, _⟩ := hr hc; cases hr⟩
  case case3 hc r h0 =>
    exact ⟨trivial, hx hc _, fun hr => by obtain ⟨_, hr, h0'⟩ := hr hc; cases hr; rw [h0] at h0'; cases h0'⟩
  case case4 hc _ _ _ => exact ⟨neg _ (by decide), hx hc _, fun _ _ => nofun⟩
  case case5 hc _ _ _ _ => exact ⟨neg _ (by decide), hx hc _, fun _ _ => nofun⟩
  case case6 hc _ _ _ _ _ => exact ⟨neg _ (by decide), hx hc _, fun _ _ => nofun⟩
  case case7 hc _ _ _ _ _ _ _ => exact ⟨trivial, hx hc _, fun _ _ => nofun⟩
  case case8 h1 _ _ _ _ _ _ _ out hout => exact ⟨Int.not_lt.1 h1, fun _ => ⟨out, hout⟩⟩
  case case9 h1 hc => exact ⟨Int.not_lt.1 h1, fun h => absurd h hc⟩

theorem pass1_eq_findSome? (P : Params) (h : Nat) (bal : Ticker → Int) (rates avgs : Option TMap) (l : List Tx) :
    pass1 P h bal rates avgs l = l.findSome? (pass1Tx P h bal rates avgs) := by
  fun_induction pass1 P h bal rates avgs l
  case case1 => rfl
  case case2 hv => rw [List.findSome?_cons, hv]
  case case3 hv ih => rw [List.findSome?_cons, hv, ih]

theorem pass1_some {P : Params} {h : Nat} {bal : Ticker → Int} {rates avgs : Option TMap} {l : List Tx} {v : Verdict}
    (hv : pass1 P h bal rates avgs l = some v) : ∃ t ∈ l, pass1Tx P h bal rates avgs t = some v := by
  rw [pass1_eq_findSome?] at hv
  exact List.exists_of_findSome?_eq_some hv

theorem pass1_none {P : Params} {h : Nat} {bal : Ticker → Int} {rates avgs : Option TMap} {l : List Tx}
    (hv : pass1 P h bal rates avgs l = none) : ∀ t ∈ l, pass1Tx P h bal rates avgs t = none := by
  rw [pass1_eq_findSome?] at hv
  exact List.findSome?_eq_none_iff.1 hv

/-- the credit pass 2 books for one transaction (per asset); `none` = pass 2 stops with an error -/
def creditOf (P : Params) (h : Nat) (rates avgs : Option TMap) (t : Tx) : Option (Ticker → Int) :=
  if t.isConversion P then
    match convert P.act.pip10 h (toInt64 t.inAmount) ((rates.getD []).get t.inType) ((avgs.getD []).get t.inType)
        ((rates.getD []).get t.conversion) ((avgs.getD []).get t.conversion) with
    | none => none
    | some out => some (fun x => if x = t.conversion ∧ ¬ (h ≥ P.act.convLimit ∧ t.isPEGRequest = true) then out else 0)
  else some (fun x => if x = t.inType then backTo t.inAddr t.transfers else 0)

theorem creditOf_isSome_iff {P : Params} {h : Nat} {rates avgs : Option TMap} {t : Tx} :
    (∃ c, creditOf P h rates avgs t = some c) ↔ (t.isConversion P = true → ∃ out, convOf P h rates avgs t = some out) := by
  fun_cases creditOf P h rates avgs t
  case case1 hc hconv =>
    exact ⟨nofun, fun hx => by obtain ⟨_, hout⟩ := hx hc; rw [convOf, hconv] at hout; cases hout⟩
  case case2 hc out hconv => exact ⟨fun _ _ => ⟨out, hconv⟩, fun _ => ⟨_, rfl⟩⟩
  case case3 hc => exact ⟨fun _ hx => absurd hx hc, fun _ => ⟨_, rfl⟩⟩

theorem pass2_cons (P : Params) (h : Nat) (rates avgs : Option TMap) (bal : Ticker → Int) (t : Tx) (rest : List Tx) :
    pass2 P h rates avgs bal (t :: rest) =
      if bal t.inType < (t.inAmount : Int) then some (.reject (-1))
      else match creditOf P h rates avgs t with
        | none => some (.failBlock (.uncaught "convert"))
        | some c => pass2 P h rates avgs (fun x => bal x - (if x = t.inType then (t.inAmount : Int) else 0) + c x) rest := by
  rw [pass2]
  refine ite_congr rfl (fun _ => rfl) fun _ => ?_
  unfold creditOf
  by_cases hc : t.isConversion P = true
  · rw [if_pos hc, if_pos hc]
    dsimp only
    rw [← convOf]
    cases convOf P h rates avgs t with
    | none => rfl
    | some out =>
      -- the balance map pass 2 carries on is the one stated, cell by cell
      refine congrArg (pass2 P h rates avgs · rest) (funext fun x => ?_)
      rw [Int.sub_ite_zero, Int.add_ite_zero]
      refine ite_congr (propext (and_congr_right' ?_)) (fun _ => rfl) (fun _ => rfl)
      rw [Bool.not_eq_true', Bool.and_eq_false_iff, decide_eq_false_iff_not, Decidable.not_and_iff_not_or_not, Bool.not_eq_true]
  · rw [if_neg hc, if_neg hc]
    refine congrArg (pass2 P h rates avgs · rest) (funext fun x => ?_)
    rw [Int.sub_ite_zero, Int.add_ite_zero]
    by_cases hx : x = t.inType
    · rw [if_pos hx, if_pos hx, if_pos hx]
      rfl
    · rw [if_neg hx, if_neg hx, if_neg hx]

theorem pass2_cons_none {P : Params} {h : Nat} {rates avgs : Option TMap} {bal : Ticker → Int} {t : Tx} {rest : List Tx}
    (hp : pass2 P h rates avgs bal (t :: rest) = none) :
    (t.inAmount : Int) ≤ bal t.inType ∧ ∃ c, creditOf P h rates avgs t = some c ∧
      pass2 P h rates avgs (fun x => bal x - (if x = t.inType then (t.inAmount : Int) else 0) + c x) rest = none := by
  rw [pass2_cons] at hp
  by_cases h1 : bal t.inType < (t.inAmount : Int)
  · rw [if_pos h1] at hp
    cases hp
  · rw [if_neg h1] at hp
    cases hc : creditOf P h rates avgs t with
    | none =>
      rw [hc] at hp
      cases hp
    | some c =>
      rw [hc] at hp
      exact ⟨Int.not_lt.1 h1, c, rfl, hp⟩

/-- the second loop accepts only if every conversion can be computed, and stops only for lack of funds or at one that
    cannot -/
theorem pass2_cases {P : Params} {h : Nat} {rates avgs : Option TMap} (bal : Ticker → Int) (l : List Tx) :
    (pass2 P h rates avgs bal l = none → ∀ t ∈ l, t.isConversion P = true → ∃ out, convOf P h rates avgs t = some out) ∧
    ∀ v, pass2 P h rates avgs bal l = some v → v = .reject (-1) ∨
      v = .failBlock (.uncaught "convert") ∧ ∃ t ∈ l, t.isConversion P = true ∧ convOf P h rates avgs t = none := by
  fun_induction pass2 P h rates avgs bal l
  case case1 => exact ⟨fun _ _ => (nomatch ·), fun _ => (nomatch ·)⟩
  case case2 => exact ⟨(nomatch ·), fun _ hv => .inl (Option.some.inj hv).symm⟩
  case case3 hc _ _ hconv => exact ⟨(nomatch ·), fun _ hv => .inr ⟨(Option.some.inj hv).symm, _, List.mem_cons_self, hc, hconv⟩⟩
  case case4 out hconv _ _ _ ih =>
    exact ⟨fun hn => List.forall_mem_cons.2 ⟨fun _ => ⟨out, hconv⟩, ih.1 hn⟩,
      fun v hv => (ih.2 v hv).imp_right <| .imp_right <| .imp fun _ => .imp_left (List.mem_cons_of_mem _)⟩
  case case5 hc _ _ ih =>
    exact ⟨fun hn => List.forall_mem_cons.2 ⟨fun h => absurd h hc, ih.1 hn⟩,
      fun v hv => (ih.2 v hv).imp_right <| .imp_right <| .imp fun _ => .imp_left (List.mem_cons_of_mem _)⟩

theorem verdict_cons (P : Params) (db : DB) (h : Nat) (rates avgs : Option TMap) (t0 : Tx) (rest : List Tx) :
    verdict P db h rates avgs (t0 :: rest) =
      ((pass1 P h (db.balances t0.inAddr) rates avgs (t0 :: rest)).or
        (pass2 P h rates avgs (db.balances t0.inAddr) (t0 :: rest))).getD .apply := by
  unfold verdict
  dsimp only
  cases pass1 P h (db.balances t0.inAddr) rates avgs (t0 :: rest) with
  | some v => rfl
  | none =>
    cases pass2 P h rates avgs (db.balances t0.inAddr) (t0 :: rest) <;> rfl

theorem passes_stop {P : Params} {h : Nat} {rates avgs : Option TMap} {bal : Ticker → Int} {l : List Tx} {v : Verdict}
    (hv : (pass1 P h bal rates avgs l).or (pass2 P h rates avgs bal l) = some v) : v.stops := by
  rcases Option.or_eq_some_iff.1 hv with h1 | ⟨_, h2⟩
  · obtain ⟨t, _, ht⟩ := pass1_some h1
    exact (pass1Tx_cases ht).1
  · rcases (pass2_cases bal l).2 v h2 with rfl | ⟨rfl, _⟩
    · exact (by decide : (-1 : Int) < 0)
    · trivial

theorem verdict_stops {P : Params} {db : DB} {h : Nat} {rates avgs : Option TMap} {txs : List Tx} :
    verdict P db h rates avgs txs = .apply ∨ (verdict P db h rates avgs txs).stops := by
  cases txs with
  | nil => exact Or.inl rfl
  | cons t0 rest =>
    rw [verdict_cons]
    cases hp : Option.or _ _ with
    | none => exact Or.inl rfl
    | some v => exact Or.inr (passes_stop hp)

theorem verdict_apply {P : Params} {db : DB} {h : Nat} {rates avgs : Option TMap} {t0 : Tx} {rest : List Tx}
    (hv : verdict P db h rates avgs (t0 :: rest) = .apply) :
    pass1 P h (db.balances t0.inAddr) rates avgs (t0 :: rest) = none ∧
    pass2 P h rates avgs (db.balances t0.inAddr) (t0 :: rest) = none := by
  rw [verdict_cons] at hv
  -- an answer `some v` of the passes would be the verdict: `apply`, which does not stop a batch
  refine Option.or_eq_none_iff.1 (Option.eq_none_iff_forall_ne_some.2 fun v hp => ?_)
  rw [hp] at hv
  have hs := passes_stop hp
  rw [show v = .apply from hv] at hs
  exact hs

section
variable {P : Params} {h : Nat} {e : TxEntry} {rates avgs : Option TMap} {s s' : DB} {v : Verdict}

theorem applyBatch_run (P : Params) (h : Nat) (e : TxEntry) (rates avgs : Option TMap) (s : DB) :
    applyBatch P h e rates avgs s =
      match verdict P s h rates avgs e.txs with
      | .apply => (recordBatch P h e.hash rates avgs e.txs >>= fun _ => pure Verdict.apply) { s with execLog := s.execLog ++ [e.hash] }
      | .failBlock f => .fail f s
      | v => .ok v s := by
  unfold applyBatch
  rw [M.get_bind]
  cases verdict P s h rates avgs e.txs <;> rfl

theorem applyBatch_ok (hr : applyBatch P h e rates avgs s = .ok v s') :
    verdict P s h rates avgs e.txs = v ∧ (∀ f, v ≠ .failBlock f) ∧
    ((v = .apply ∧ recordBatch P h e.hash rates avgs e.txs { s with execLog := s.execLog ++ [e.hash] } = .ok () s') ∨
     (v ≠ .apply ∧ s' = s)) := by
  rw [applyBatch_run] at hr
  split at hr
  next hv =>
    obtain ⟨_, s1, hrec, hp⟩ := M.bind_ok hr
    cases hp
    exact ⟨hv, fun _ => nofun, .inl ⟨rfl, hrec⟩⟩
  next => cases hr
  next hna hnf =>
    cases hr
    exact ⟨rfl, hnf, .inr ⟨hna, rfl⟩⟩

theorem applyBatch_apply (hr : applyBatch P h e rates avgs s = .ok .apply s') :
    verdict P s h rates avgs e.txs = .apply ∧
    recordBatch P h e.hash rates avgs e.txs { s with execLog := s.execLog ++ [e.hash] } = .ok () s' := by
  obtain ⟨hv, _, ⟨_, hrec⟩ | ⟨hne, _⟩⟩ := applyBatch_ok hr
  · exact ⟨hv, hrec⟩
  · exact absurd rfl hne

theorem applyBatch_noop (hr : applyBatch P h e rates avgs s = .ok v s') (hv : v ≠ .apply) : s' = s := by
  obtain ⟨_, _, ⟨ha, _⟩ | ⟨_, hs⟩⟩ := applyBatch_ok hr
  · exact absurd ha hv
  · exact hs

end

/-- the body of `recordHistory`'s loop -/
def recordHistoryTx (P : Params) (hash : Hash) (idx : Nat) (t : Tx) : LM Unit := do
  insertLookup { hash := hash, txIndex := idx, addr := t.inAddr }
  if t.isConversion P then
    insertHistTx { hash := hash, txIndex := idx, action := 2, fromAddr := t.inAddr, fromAsset := tickerName P t.inType,
                   fromAmount := t.inAmount, toAsset := tickerName P t.conversion, toAmount := 0, outputs := "",
                   fromT := t.inType, toT := t.conversion }
  else do
    M.forEach t.transfers fun tr => insertLookup { hash := hash, txIndex := idx, addr := tr.addr }
    insertHistTx { hash := hash, txIndex := idx, action := 1, fromAddr := t.inAddr, fromAsset := tickerName P t.inType,
                   fromAmount := t.inAmount, toAsset := "", toAmount := 0,
                   outputs := renderOutputs (t.transfers.map fun tr => (tr.addr, (tr.amount : Int))),
                   fromT := t.inType, outs := t.transfers.map fun tr => (tr.addr, tr.amount) }

theorem recordHistory_eq (P : Params) (h bo : Nat) (e : TxEntry) :
    recordHistory P h bo e =
      (insertHistBatch { hash := e.hash, height := h, blockorder := bo, ts := e.ts, executed := 0 } >>= fun _ =>
        M.forEachIdx e.txs (recordHistoryTx P e.hash)) := rfl

def DB.butHistRows (s : DB) : DB := { s with histT := [], histL := [] }

theorem recordHistoryRows_frame (P : Params) (e : TxEntry) :
    Step (keepRel DB.butHistRows) (M.forEachIdx e.txs (recordHistoryTx P e.hash)) := by
  have look : ∀ r, Step (keepRel DB.butHistRows) (insertLookup r) :=
    fun r => Step.guarded (fun s => by simp only [keepRel, DB.butHistRows]; split <;> rfl)
  have tx : ∀ r, Step (keepRel DB.butHistRows) (insertHistTx r) := fun r => Step.guarded (fun s => rfl)
  exact Step.forEachIdx fun i t => Step.bind (look _) fun _ =>
    Step.ite (tx _) (Step.bind (Step.forEach fun _ => look _) fun _ => tx _)

section
variable {P : Params} {h : Nat}

/-- whether `applyTxEntry` looks at the entry at all -/
def TxEntry.arrives (P : Params) (h : Nat) (e : TxEntry) (s : DB) : Bool :=
  e.validAt P h && !s.isReplay e.hash && !s.isRecorded e.hash

theorem TxEntry.arrives_true {e : TxEntry} {s : DB} (hc : e.arrives P h s = true) :
    e.validAt P h = true ∧ s.isReplay e.hash = false ∧ s.isRecorded e.hash = false := by
  unfold TxEntry.arrives at hc
  simp only [Bool.and_eq_true, Bool.not_eq_true'] at hc
  exact ⟨hc.1.1, hc.1.2, hc.2⟩

/-- the tail of `applyTxEntry` on a transfer-only entry: what is done with the verdict -/
def settleTx (hash : Hash) : Verdict → LM Unit
  | .reject (-1) => setExecuted hash (-1)
  | .reject c => M.throw (.uncaught ("reject " ++ toString c))
  | _ => pure ()

theorem applyTxEntry_run (keymr : String) (bo : Nat) (e : TxEntry) (s : DB) :
    applyTxEntry P h keymr bo e s =
      if e.arrives P h s = true then
        (recordHistory P h bo e >>= fun _ =>
          if e.hasConversions P = true then insertHolding { entry := e, height := h, keymr := keymr }
          else applyBatch P h e none none >>= settleTx e.hash) s
      else .ok () s := by
  unfold applyTxEntry TxEntry.arrives
  rw [M.get_bind]
  exact apply_ite (fun m : LM Unit => m s) ..

theorem applyTxEntry_skip {keymr : String} {bo : Nat} {e : TxEntry} {s : DB} (hc : e.arrives P h s = false) :
    applyTxEntry P h keymr bo e s = .ok () s := by
  rw [applyTxEntry_run, if_neg (by rw [hc]; nofun)]

theorem applyTxEntry_skip_invalid {keymr : String} {bo : Nat} {e : TxEntry} {s : DB} (hv : e.validAt P h = false) :
    applyTxEntry P h keymr bo e s = .ok () s :=
  applyTxEntry_skip (by simp only [TxEntry.arrives, hv, Bool.false_and])

theorem applyTxEntry_skip_replay {keymr : String} {bo : Nat} {e : TxEntry} {s : DB} (hx : s.isReplay e.hash = true) :
    applyTxEntry P h keymr bo e s = .ok () s :=
  applyTxEntry_skip (by simp only [TxEntry.arrives, hx, Bool.not_true, Bool.and_false, Bool.false_and])

theorem applyTxEntry_skip_recorded {keymr : String} {bo : Nat} {e : TxEntry} {s : DB} (hx : s.isRecorded e.hash = true) :
    applyTxEntry P h keymr bo e s = .ok () s :=
  applyTxEntry_skip (by simp only [TxEntry.arrives, hx, Bool.not_true, Bool.and_false])

/-- whether a held batch is refused outright (status −2) -/
def TxEntry.heldInvalid (P : Params) (h : Nat) (e : TxEntry) : Bool :=
  (decide (h ≥ P.act.v20) && !e.validPegTx P) || !e.validAt P h

theorem TxEntry.heldInvalid_false {e : TxEntry} (hc : ¬ e.heldInvalid P h = true) : e.validAt P h = true := by
  unfold TxEntry.heldInvalid at hc
  cases hv : e.validAt P h with
  | true => rfl
  | false => simp [hv] at hc

/-- the tail of `applyHeld`: what is done with the verdict -/
def settleHeld (P : Params) (h : Nat) (e : TxEntry) : Verdict → LM Bool
  | .reject c => do setExecuted e.hash c; pure false
  | _ => pure (decide (h < P.act.v20) && decide (h ≥ P.act.convLimit) && e.hasPEGRequest)

theorem applyHeld_run (rates avgs : TMap) (e : TxEntry) (s : DB) :
    applyHeld P h rates avgs e s =
      if e.heldInvalid P h = true then (setExecuted e.hash (-2) >>= fun _ => pure false) s
      else if s.isReplay e.hash = true then .ok false s
      else (applyBatch P h e (some rates) (some avgs) >>= settleHeld P h e) s := by
  unfold applyHeld TxEntry.heldInvalid
  rw [M.get_bind, apply_ite (fun m : LM Bool => m s), apply_ite (fun m : LM Bool => m s)]
  rfl

end

theorem preAdjust_skip {P : Params} {h : Nat} (c s : DB) (h1 : h ≠ P.act.v204) (h2 : h ≠ P.act.v204Burn) :
    preAdjust P c h s = .ok () s := by
  unfold preAdjust
  rw [if_neg h1, if_neg h2]
  rfl

theorem sprPass_some {db : DB} {entries : List (Option Addr)} {idx : List Nat} (h : sprPass db entries = some idx) :
    ∀ i ∈ idx, ∃ a, (entries.zipIdx.any fun p => p.2 == i && p.1 == some a) = true ∧ a ∈ db.top100 := by
  unfold sprPass at h
  injection h with h
  subst h
  intro i hi
  obtain ⟨p, hp, hpi⟩ := List.mem_map.1 hi
  obtain ⟨hmem, hcond⟩ := List.mem_filter.1 hp
  cases hpa : p.1 with
  | none => rw [hpa] at hcond; cases hcond
  | some a =>
    rw [hpa] at hcond
    exact ⟨a, List.any_eq_true.2 ⟨p, hmem, by simp [hpi, hpa]⟩, by simpa using hcond⟩

end Pegnet

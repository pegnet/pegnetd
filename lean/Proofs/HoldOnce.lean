import Proofs.Chain
/-
  C06: an entry is held at most once — the holding table never has two rows of one entry hash.
-/
namespace Pegnet

def HoldNodup (s : DB) : Prop := (s.holding.map (·.entry.hash)).Nodup

theorem primsOK_holdNodup (P : Params) (h : Nat) : PrimsOK P h (invRel HoldNodup) :=
  primsOK_of_obs (·.holding) (fun _ _ e h => by unfold HoldNodup at *; rw [e]; exact h)
    (insertHolding := fun e keymr _ => Step.guardedOn fun s hg hs => by
      -- the UNIQUE constraint on the entry hash let the insert through
      have hfresh : e.hash ∉ s.holding.map (·.entry.hash) := fun hm => by
        obtain ⟨r, hr, hra⟩ := List.mem_map.1 hm
        have hany : (s.holding.any fun x => x.entry.hash == e.hash) = true :=
          List.any_eq_true.2 ⟨r, hr, beq_iff_eq.2 hra⟩
        rw [if_pos hany] at hg
        cases hg
      show ((s.holding ++ [({ entry := e, height := h, keymr := keymr } : HoldRow)]).map (·.entry.hash)).Nodup
      rw [List.map_append]
      exact hs.concat hfresh)

theorem runBlocks_holdNodup (P : Params) (n : Node) (chain : List Block) (h : HoldNodup n.db) :
    HoldNodup (runBlocks P n chain).db :=
  runBlocks_rel (P := P) (invRel HoldNodup) ⟨fun _ _ h => h⟩ (fun b => primsOK_holdNodup P b.height)
    (fun _ => Step.guarded (fun _ h => h)) n chain h

end Pegnet

import Pegnet.Basic
/-
  The ticker table (`fat/fat2/pticker.go`): `tickerName` and `stringToTicker` are inverse to each other on
  the valid tickers of a table without duplicates.
-/
namespace Pegnet

theorem validTicker_iff {P : Params} {t : Nat} : validTicker P t = true ↔ 0 < t ∧ t < P.tickerMax := by
  simp only [validTicker, Bool.and_eq_true, decide_eq_true_eq]

theorem tickerName_valid {P : Params} {t : Nat} (hv : validTicker P t = true) (hi : t - 1 < P.tickerNames.length) :
    tickerName P t = P.tickerNames[t - 1] := by
  rw [tickerName, if_pos hv, List.getD_eq_getElem?_getD, List.getElem?_eq_getElem hi, Option.getD_some]

theorem tickerName_of_string {P : Params} {s : String} {ty : Ticker} (h : stringToTicker P s = ty)
    (hv : validTicker P ty = true) : tickerName P ty = s := by
  subst h
  revert hv
  fun_cases stringToTicker P s
  case case1 i hf =>
    intro hv
    obtain ⟨hi, hp, -⟩ := List.findIdx?_eq_some_iff_getElem.1 hf
    rw [tickerName_valid hv hi]
    simpa using hp
  -- an unknown name is ticker 0, which is not valid
  case case2 => nofun

/-- a valid ticker indexes the table, which has a name for each of them -/
theorem validTicker_index {P : Params} (hlen : P.tickerMax ≤ P.tickerNames.length + 1) {t : Nat}
    (hv : validTicker P t = true) : t - 1 < P.tickerNames.length :=
  have ⟨h0, h1⟩ := validTicker_iff.1 hv
  Nat.sub_lt_right_of_lt_add h0 (Nat.lt_of_lt_of_le h1 hlen)

theorem stringToTicker_tickerName {P : Params} (hnd : P.tickerNames.Nodup) (hlen : P.tickerMax ≤ P.tickerNames.length + 1)
    {t : Nat} (hv : validTicker P t = true) : stringToTicker P (tickerName P t) = t := by
  have hi := validTicker_index hlen hv
  have hf : P.tickerNames.findIdx? (· == P.tickerNames[t - 1]) = some (t - 1) :=
    List.findIdx?_eq_some_iff_getElem.2 ⟨hi, beq_self_eq_true _, fun j hj hb =>
      Nat.ne_of_lt hj ((List.getElem_inj hnd).1 (beq_iff_eq.1 hb))⟩
  rw [tickerName_valid hv hi, stringToTicker, hf]
  exact Nat.sub_add_cancel (validTicker_iff.1 hv).1

/-- what the JSON round trip (Proofs/JsonRoundTrip) needs of the ticker table -/
structure TickersOK (P : Params) : Prop where
  back : ∀ t, validTicker P t = true → stringToTicker P (tickerName P t) = t
  size : ∀ t, validTicker P t = true → 3 ≤ (tickerName P t).utf8ByteSize
  head : ∀ t, validTicker P t = true → (tickerName P t).toList.head? ≠ some '"'
  last : ∀ t, validTicker P t = true → (tickerName P t).toList.getLast? ≠ some '"'

theorem TickersOK.of_names {P : Params} (hnd : P.tickerNames.Nodup) (hlen : P.tickerMax ≤ P.tickerNames.length + 1)
    (hs : ∀ s ∈ P.tickerNames, 3 ≤ s.utf8ByteSize ∧ s.toList.head? ≠ some '"' ∧ s.toList.getLast? ≠ some '"') :
    TickersOK P := by
  have mem : ∀ t : Nat, validTicker P t = true → tickerName P t ∈ P.tickerNames := fun t hv => by
    rw [tickerName_valid hv (validTicker_index hlen hv)]
    exact List.getElem_mem _
  exact ⟨fun _ hv => stringToTicker_tickerName hnd hlen hv, fun t hv => (hs _ (mem t hv)).1,
    fun t hv => (hs _ (mem t hv)).2.1, fun t hv => (hs _ (mem t hv)).2.2⟩

end Pegnet

import Proofs.Relations
import Proofs.Events
/-
  C04 / C17: what an executed transaction moves, for every address and every asset — transfers,
  ordinary conversions and (first pass) PEG requests of the bank era — and what the bank pass adds.
-/
namespace Pegnet

/-- what the output side of an executed transaction credits to `(a, x)` -/
def outDelta (P : Params) (h : Nat) (rates avgs : Option TMap) (t : Tx) (a : Addr) (x : Ticker) : Int :=
  if h ≥ P.act.convLimit ∧ t.isPEGRequest = true then 0          -- paid by the bank pass
  else if t.isConversion P = true then
    match convert P.act.pip10 h (toInt64 t.inAmount) ((rates.getD []).get t.inType) ((avgs.getD []).get t.inType)
        ((rates.getD []).get t.conversion) ((avgs.getD []).get t.conversion) with
    | some out => if a = t.inAddr ∧ x = t.conversion then out else 0
    | none => 0
  else if x = t.inType then creditedTo P h a t.transfers else 0

/-- the balance movements one executed transaction implies -/
def txDelta (P : Params) (h : Nat) (rates avgs : Option TMap) (t : Tx) (a : Addr) (x : Ticker) : Int :=
  outDelta P h rates avgs t a x - (if a = t.inAddr ∧ x = t.inType then (t.inAmount : Int) else 0)

theorem outEffect_cell (P : Params) (h : Nat) (rates avgs : Option TMap) (t : Tx) (a : Addr) (x : Ticker) :
    outEffect cell P h rates avgs t (a, x) = outDelta P h rates avgs t a x := by
  unfold outEffect outDelta
  rw [credited_sum]
  rfl

theorem txDelta_eq (P : Params) (h : Nat) (rates avgs : Option TMap) (t : Tx) (a : Addr) (x : Ticker) :
    cell t.inAddr t.inType (-(t.inAmount : Int)) (a, x) + outEffect cell P h rates avgs t (a, x) = txDelta P h rates avgs t a x := by
  rw [txDelta, outEffect_cell, cell_neg, Int.add_comm]
  rfl

theorem recordOutputs_exact (P : Params) (h : Nat) (hash : Hash) (rates avgs : Option TMap) (idx : Nat) (t : Tx) (s : DB) :
    Outcome (recordOutputs P h hash rates avgs idx t s)
      (fun _ s' => ∀ a x, s'.bal a x = s.bal a x + outDelta P h rates avgs t a x) :=
  Moves.outcome (recordOutputs_adds balLedger P h hash rates avgs idx t) s (outEffect_cell P h rates avgs t)

/-- **One executed transaction, exactly**: every kind, every address, every asset -/
theorem recordTx_exact (P : Params) (h : Nat) (hash : Hash) (rates avgs : Option TMap) (idx : Nat) (t : Tx)
    (s : DB) (hf : (t.inAmount : Int) ≤ s.bal t.inAddr t.inType) :
    Outcome (recordTx P h hash rates avgs idx t s)
      (fun _ s' => ∀ a x, s'.bal a x = s.bal a x + txDelta P h rates avgs t a x) :=
  Outcome.mono (recordTx_outcome P h hash rates avgs idx t s hf) fun _ _ hh a x => by
    rw [← txDelta_eq, ← Int.add_assoc]
    exact hh (a, x)

def batchDelta (P : Params) (h : Nat) (rates avgs : Option TMap) (txs : List Tx) (a : Addr) (x : Ticker) : Int :=
  (txs.map (fun t => txDelta P h rates avgs t a x)).sum

theorem recordLoop_ok_exact (P : Params) (h : Nat) (hash : Hash) (rates avgs : Option TMap) (l : List (Tx × Nat)) :
    ∀ (s s' : DB), AddrsOK s → M.forEach l (fun p => recordTx P h hash rates avgs p.2 p.1) s = .ok () s' →
      AddrsOK s' ∧ ∀ a x, s'.bal a x = s.bal a x + batchDelta P h rates avgs (l.map (·.1)) a x := by
  induction l with
  | nil =>
    intro s s' hok hr
    rw [(M.pure_ok hr).2]
    exact ⟨hok, fun a x => (Int.add_zero _).symm⟩
  | cons p rest ih =>
    intro s s' hok hr
    obtain ⟨_, s1, h1, h2⟩ := M.bind_ok (m := recordTx P h hash rates avgs p.2 p.1) hr
    obtain ⟨hok2, hd2⟩ := ih s1 s' ((recordTx_step (primsOK_addrsOK P h) hash rates avgs p.2 p.1).ok h1 hok) h2
    refine ⟨hok2, fun a x => ?_⟩
    -- a transaction that is recorded moved every balance by `txDelta` (one whose input is not covered is not recorded)
    have e1 : s1.bal a x = _ := (balLedger.recordTx_ok trivial h1).2 (a, x)
    rw [hd2 a x, e1, Int.add_assoc (balAt s (a, x)), txDelta_eq, Int.add_assoc]
    rfl

/-- **A recorded batch, exactly**: every address and asset moved by the sum of what the batch's
    transactions imply — nothing else, nobody else -/
theorem recordBatch_exact (P : Params) (h : Nat) (hash : Hash) (rates avgs : Option TMap) (txs : List Tx)
    (s s' : DB) (hok : AddrsOK s) (hr : recordBatch P h hash rates avgs txs s = .ok () s') :
    AddrsOK s' ∧ ∀ a x, s'.bal a x = s.bal a x + batchDelta P h rates avgs txs a x := by
  unfold recordBatch M.forEachIdx at hr
  exact List.zipIdx_map_fst 0 txs ▸ recordLoop_ok_exact P h hash rates avgs txs.zipIdx s s' hok hr

/-- `reward` in `devPayoutLoop` -/
def devReward (P : Params) (h : Nat) (d : Addr × Nat) : Nat :=
  (P.perBlockDevs / 100) * d.2 * (if h ≥ P.act.v202 then P.snapshotRate else 1)

section ledger
variable {ι : Type} {I : DB → Prop} {obs : DB → ι → Int} {credit : Addr → Ticker → Int → ι → Int} (L : Ledger I obs credit)
include L

theorem payPegReq_adds (P : Params) (h : Nat) (rates : TMap) (r : PegReq) (y : Nat) :
    Adds I obs (payPegReq P h rates r y) (fun i => credit r.tx.inAddr r.tx.conversion (y : Nat) i +
      credit r.tx.inAddr r.tx.inType ((refund P.act.pip10 h (toInt64 r.tx.inAmount) (toInt64 y)
        (rates.get r.tx.inType) (rates.get r.tx.conversion)).toNat : Nat) i) :=
  (L.setPegConverted _ _ _ _).keep_then fun _ =>
    (L.addBal P r.tx.inAddr r.tx.conversion y).bind fun _ => L.addBal P r.tx.inAddr r.tx.inType _

theorem recordPegRequests_adds (P : Params) (h : Nat) (rates avgs : TMap) (batches : List TxEntry)
    (bank : Nat) (bh : Int) :
    Adds I obs (recordPegRequests P h rates avgs batches bank bh) (fun i => (((pegRequests P h rates avgs batches).zip
      (payouts bank ((pegRequests P h rates avgs batches).map fun r => (r.key, r.requested)))).map
      (fun rp => credit rp.1.tx.inAddr rp.1.tx.conversion (rp.2.2 : Nat) i +
        credit rp.1.tx.inAddr rp.1.tx.inType ((refund P.act.pip10 h (toInt64 rp.1.tx.inAmount) (toInt64 rp.2.2)
          (rates.get rp.1.tx.inType) (rates.get rp.1.tx.conversion)).toNat : Nat) i)).sum) := by
  fun_cases recordPegRequests P h rates avgs batches bank bh
  case case1 => exact Adds.throw (notShort_uncaught (by simp)) _
  case case2 =>
    refine (Adds.forEach (fun (rp : PegReq × TxKey × Nat) => payPegReq_adds L P h rates rp.1 rp.2.2) _).then_keep fun _ => ?_
    split
    · exact L.updateBank _ _ _
    · exact Adds.pure ()

theorem applyFct_adds (P : Params) (h : Nat) (burnRCD : Addr) (f : FctTx) :
    Adds I obs (applyFct P h burnRCD f)
      (fun i => match burnOf burnRCD f with | none => 0 | some inp => credit inp.1 tFCT (inp.2 : Nat) i) := by
  unfold applyFct
  cases burnOf burnRCD f with
  | none => exact Adds.pure ()
  | some inp => exact L.creditWithHistory P inp.1 tFCT inp.2 _ _ _

theorem devPayoutLoop_adds (P : Params) (h : Nat) (ts : Int) :
    ∀ (l : List (Addr × Nat)) (i j : Nat),
      Adds I obs (devPayoutLoop P h ts i j l) (fun c => (l.map fun d => credit d.1 tPEG (devReward P h d : Nat) c).sum)
  | [], _, _ => Adds.pure ()
  | d :: rest, i, j =>
    ((L.addBal P d.1 tPEG (devReward P h d)).bind fun _ =>
      (L.insertHistBatch _).keep_then fun _ => (L.insertHistTx _).keep_then fun _ =>
      (L.insertLookup _).keep_then fun _ => devPayoutLoop_adds P h ts rest _ _).congr
      fun _ => by simp only [List.map_cons, List.sum_cons]

end ledger

/-- what paying one PEG request moves: the yield in PEG (the request's destination) and the
    refund in the source asset, both to the requesting address -/
def pegDelta (P : Params) (h : Nat) (rates : TMap) (r : PegReq) (y : Nat) (a : Addr) (x : Ticker) : Int :=
  (if a = r.tx.inAddr ∧ x = r.tx.conversion then (y : Int) else 0) +
  (if a = r.tx.inAddr ∧ x = r.tx.inType then
     (((refund P.act.pip10 h (toInt64 r.tx.inAmount) (toInt64 y) (rates.get r.tx.inType) (rates.get r.tx.conversion)).toNat : Nat) : Int)
   else 0)

theorem payPegReq_exact (P : Params) (h : Nat) (rates : TMap) (r : PegReq) (y : Nat) (s : DB) :
    Outcome (payPegReq P h rates r y s)
      (fun _ s' => ∀ a x, s'.bal a x = s.bal a x + pegDelta P h rates r y a x) :=
  Moves.outcome (payPegReq_adds balLedger P h rates r y) s

/-- **The bank pass, exactly**: `recordPegnetRequests` moves, for every address and asset, the sum
    over the block's requests of (yield paid in PEG + refund in the source asset) — the yields being
    `Payouts` of the bank over the requested amounts — and nothing else -/
theorem recordPegRequests_exact (P : Params) (h : Nat) (rates avgs : TMap) (batches : List TxEntry)
    (bank : Nat) (bh : Int) (s : DB) :
    Outcome (recordPegRequests P h rates avgs batches bank bh s)
      (fun _ s' => ∀ a x, s'.bal a x = s.bal a x +
        (((pegRequests P h rates avgs batches).zip
            (payouts bank ((pegRequests P h rates avgs batches).map fun r => (r.key, r.requested)))).map
          (fun rp => pegDelta P h rates rp.1 rp.2.2 a x)).sum) :=
  Moves.outcome (recordPegRequests_adds balLedger P h rates avgs batches bank bh) s

/-- **The one-time mint, exactly**: the mint address receives the tabled amounts, nobody else anything -/
theorem mintTokens_exact (P : Params) (s : DB) :
    Outcome (mintTokens P s)
      (fun _ s' => ∀ a x, s'.bal a x = s.bal a x +
        (P.mint.map (fun p => if a = P.mintAddr ∧ x = p.1 then ((p.2 * 100000000 : Nat) : Int) else 0)).sum) :=
  Moves.outcome (Adds.forEach (fun (p : Ticker × Nat) => balLedger.addBal P P.mintAddr p.1 (p.2 * 100000000)) P.mint) s

/-- what one factoid transaction credits: its single input, in pFCT, when it has the burn shape -/
def burnDelta (burnRCD : Addr) (f : FctTx) (a : Addr) (x : Ticker) : Int :=
  match burnOf burnRCD f with
  | none => 0
  | some inp => if a = inp.1 ∧ x = tFCT then (inp.2 : Int) else 0

/-- **FCT burns, exactly**: a factoid block credits, for every address and asset, the burned amounts
    of the transactions of burn shape to their input addresses in pFCT, and nothing else -/
theorem applyFactoidBlock_exact (P : Params) (h : Nat) (burnRCD : Addr) (fcts : List FctTx) (s : DB) :
    Outcome (applyFactoidBlock P h burnRCD fcts s)
      (fun _ s' => ∀ a x, s'.bal a x = s.bal a x + (fcts.map (fun f => burnDelta burnRCD f a x)).sum) :=
  Moves.outcome (Adds.forEach (applyFct_adds balLedger P h burnRCD) fcts) s fun a x =>
    congrArg List.sum (List.map_congr_left fun f _ => by
      unfold burnDelta
      cases burnOf burnRCD f <;> rfl)

/-- **Developer rewards, exactly**: each entry of the developer table is credited its share in PEG -/
theorem developersPayouts_exact (P : Params) (h : Nat) (ts : Int) (s : DB) :
    Outcome (developersPayouts P h ts s)
      (fun _ s' => ∀ a x, s'.bal a x = s.bal a x +
        (P.devs.map (fun d => if a = d.1 ∧ x = tPEG then ((devReward P h d : Nat) : Int) else 0)).sum) :=
  Moves.outcome (devPayoutLoop_adds balLedger P h ts P.devs 0 1) s

theorem addBal_keeps_histT (P : Params) (a : Addr) (t : Ticker) (v : Nat) : Step (keepRel (·.histT)) (addBal P a t v) :=
  Step.guarded fun _ => rfl

/-- **An executed conversion's row records the amount that was credited**: after the output side
    of an ordinary conversion, every history row of that (entry, index) carries `to_amount = out`,
    the very amount added to the destination balance (`recordOutputs_exact`) -/
theorem conversion_row_records_credit (P : Params) (h : Nat) (hash : Hash) (rates avgs : Option TMap) (idx : Nat) (t : Tx)
    (s s' : DB) (hnp : ¬ (h ≥ P.act.convLimit ∧ t.isPEGRequest = true)) (hcv : t.isConversion P = true)
    (hr : recordOutputs P h hash rates avgs idx t s = .ok () s') :
    ∃ out, convert P.act.pip10 h (toInt64 t.inAmount) ((rates.getD []).get t.inType) ((avgs.getD []).get t.inType)
        ((rates.getD []).get t.conversion) ((avgs.getD []).get t.conversion) = some out ∧
      ∀ r ∈ s'.histT, r.hash = hash → r.txIndex = (idx : Int) → r.toAmount = out := by
  revert hr
  fun_cases recordOutputs P h hash rates avgs idx t
  case case3 => nofun
  case case4 out hconv =>
    intro hr
    refine ⟨out, hconv, ?_⟩
    obtain ⟨_, s1, h1, h2⟩ := M.bind_ok hr
    have e : s'.histT = _ := ((addBal_keeps_histT P _ _ _).ok h2).trans (congrArg DB.histT (M.guarded_ok h1).2)
    intro r hrm hh hi
    rw [e] at hrm
    rcases List.mem_map_update hrm with ⟨q, _, rfl⟩ | hq
    · rfl
    · simp [hh, hi] at hq
  -- the other branches are not those of an ordinary conversion
  all_goals contradiction

/-- **A paid PEG request's row records yield and refund**: `to_amount` is the PEG paid and the
    outputs column names the requesting address with the refund that `payPegReq_exact` credits -/
theorem pegRequest_row_records_payment (P : Params) (h : Nat) (rates : TMap) (rq : PegReq) (y : Nat) (s s' : DB)
    (hr : payPegReq P h rates rq y s = .ok () s') :
    ∀ r ∈ s'.histT, r.hash = rq.key.hash → r.txIndex = (rq.key.idx : Int) →
      r.toAmount = toInt64 y ∧
      r.outputs = renderOutputs [(rq.tx.inAddr,
        refund P.act.pip10 h (toInt64 rq.tx.inAmount) (toInt64 y) (rates.get rq.tx.inType) (rates.get rq.tx.conversion))] := by
  unfold payPegReq at hr
  obtain ⟨_, s1, h1, h2⟩ := M.bind_ok hr
  obtain ⟨_, s2, h3, h4⟩ := M.bind_ok h2
  have e : s'.histT = _ := ((addBal_keeps_histT P _ _ _).ok h4).trans
    (((addBal_keeps_histT P _ _ _).ok h3).trans (congrArg DB.histT (M.guarded_ok h1).2))
  intro r hrm hh hi
  rw [e] at hrm
  rcases List.mem_map_update hrm with ⟨q, _, rfl⟩ | hq
  · exact ⟨rfl, rfl⟩
  · simp [hh, hi] at hq

end Pegnet

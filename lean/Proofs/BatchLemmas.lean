import Proofs.Relations
/-
  What the verdict of `applyTransactionBatch` says (an accepted batch is funded, a reject code is negative), and
  the pair `recordTx_ensures` / `recordBatch_ensures`: what the first recorded transaction establishes, by its
  relation row or its status, survives the rest of the batch. The replay mark is the instance (`recordBatch_marks`).
-/
namespace Pegnet

theorem verdict_apply_funded {P : Params} {db : DB} {h : Nat} {rates avgs : Option TMap} {t0 : Tx} {rest : List Tx}
    (hv : verdict P db h rates avgs (t0 :: rest) = .apply) :
    ∀ t ∈ t0 :: rest, (t.inAmount : Int) ≤ db.bal t0.inAddr t.inType :=
  fun t ht => (pass1Tx_cases (pass1_none (verdict_apply hv).1 t ht)).1

theorem verdict_reject_neg {P : Params} {h : Nat} {db : DB} {rates avgs : Option TMap} {txs : List Tx} {c : Int}
    (hv : verdict P db h rates avgs txs = .reject c) : c < 0 := by
  have := verdict_stops (P := P) (db := db) (h := h) (rates := rates) (avgs := avgs) (txs := txs)
  rw [hv] at this
  exact this.resolve_left nofun

section
variable {P : Params} {h : Nat} {R : Rel DB} {Q : DB → DB → Prop} (ok : PrimsOK P h R) (w : Widens R Q)
  (hash : Hash) (rates avgs : Option TMap)
include ok w

theorem recordTx_ensures (idx : Nat) (t : Tx)
    (hQ : Ensures Q (insertRelation hash t.inAddr idx false (t.isConversion P)) ∨ Ensures Q (setExecuted hash h)) :
    Ensures Q (recordTx P h hash rates avgs idx t) := by
  have hout := recordOutputs_step ok hash rates avgs idx t
  unfold recordTx
  refine Ensures.after w (ok.subBal _ _ _ trivial) fun b => ?_
  cases b with
  | false => exact fun _ _ _ hr => nomatch hr
  | true =>
    rcases hQ with hQ | hQ
    · exact Ensures.before w hQ fun _ => Step.seq (ok.setExecuted ..) hout
    · exact Ensures.after w (ok.insertRelation ..) fun _ => Ensures.before w hQ fun _ => hout

theorem recordBatch_ensures (t0 : Tx) (rest : List Tx)
    (hQ : Ensures Q (insertRelation hash t0.inAddr 0 false (t0.isConversion P)) ∨ Ensures Q (setExecuted hash h)) :
    Ensures Q (recordBatch P h hash rates avgs (t0 :: rest)) :=
  Ensures.before w (recordTx_ensures ok w hash rates avgs 0 t0 hQ) fun _ =>
    Step.forEach fun p => recordTx_step ok hash rates avgs p.2 p.1

end

theorem insertRelation_marks {hash : Hash} {a : Addr} {i : Nat} {t c : Bool} {s s' : DB}
    (hr : insertRelation hash a i t c s = .ok () s') : s'.isReplay hash = true := by
  rw [(M.guarded_ok hr).2]
  by_cases hex : s.rels.any (fun r => r.hash == hash && r.addr == a) = true
  · rw [if_pos hex]
    obtain ⟨r, hr, hc⟩ := List.any_eq_true.1 hex
    exact List.any_eq_true.2 ⟨r, hr, (Bool.and_eq_true _ _ ▸ hc).1⟩
  · rw [if_neg hex]
    exact List.any_eq_true.2 ⟨_, List.mem_append_right _ (List.mem_singleton.2 rfl), beq_self_eq_true _⟩

/-- the first recorded transaction writes the relation row that `IsReplayTransaction` consults: an applied
    batch is recognised as a replay from then on -/
theorem recordBatch_marks {P : Params} {h : Nat} {hash : Hash} {rates avgs : Option TMap} {t0 : Tx} {rest : List Tx} {s s' : DB}
    (hr : recordBatch P h hash rates avgs (t0 :: rest) s = .ok () s') : s'.isReplay hash = true :=
  recordBatch_ensures (primsOK_relsGrow P h) ⟨fun _ _ _ _ h => h, fun _ _ _ h h2 => h2 hash h⟩ hash rates avgs t0 rest
    (.inl fun _ _ _ => insertRelation_marks) _ _ _ hr

end Pegnet

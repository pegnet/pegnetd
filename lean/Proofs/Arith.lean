import Pegnet.Arith
/-
  `conversions.Convert`: the rates it prices with, when it succeeds, what it returns.
-/
namespace Pegnet

/-- the `src` of `convert` -/
def srcRate (pip10 h fromRate fromAvg : Nat) : Nat :=
  if h ≥ pip10 ∧ fromRate > fromAvg then fromAvg else fromRate
/-- the `dst` of `convert` -/
def dstRate (pip10 h toRate toAvg : Nat) : Nat :=
  if h ≥ pip10 ∧ toRate < toAvg then toAvg else toRate

/-- PIP-10: from the activation on the source is priced at min(spot, average) -/
theorem srcRate_eq (pip10 h fr fa : Nat) : srcRate pip10 h fr fa = if h ≥ pip10 then min fr fa else fr := by
  fun_cases srcRate pip10 h fr fa
  case case1 hc => rw [if_pos hc.1, Nat.min_eq_right (Nat.le_of_lt hc.2)]
  case case2 hc =>
    split
    case isTrue hp => exact (Nat.min_eq_left (Nat.not_lt.1 fun hlt => hc ⟨hp, hlt⟩)).symm
    case isFalse => rfl

/-- … and the destination at max(spot, average) -/
theorem dstRate_eq (pip10 h tr ta : Nat) : dstRate pip10 h tr ta = if h ≥ pip10 then max tr ta else tr := by
  fun_cases dstRate pip10 h tr ta
  case case1 hc => rw [if_pos hc.1, Nat.max_eq_right (Nat.le_of_lt hc.2)]
  case case2 hc =>
    split
    case isTrue hp => exact (Nat.max_eq_left (Nat.not_lt.1 fun hlt => hc ⟨hp, hlt⟩)).symm
    case isFalse => rfl

theorem srcRate_le (pip10 h fr fa : Nat) : srcRate pip10 h fr fa ≤ fr := by
  fun_cases srcRate pip10 h fr fa
  case case1 hc => exact Nat.le_of_lt hc.2
  case case2 => exact Nat.le_refl _

theorem dstRate_ge (pip10 h tr ta : Nat) : tr ≤ dstRate pip10 h tr ta := by
  fun_cases dstRate pip10 h tr ta
  case case1 hc => exact Nat.le_of_lt hc.2
  case case2 => exact Nat.le_refl _

/-- the guard under which `convert` does not fail before the overflow check -/
def ConvGuard (pip10 h : Nat) (amt : Int) (fr fa tr ta : Nat) : Prop :=
  0 ≤ amt ∧ fr ≠ 0 ∧ tr ≠ 0 ∧ (h ≥ pip10 → fa ≠ 0 ∧ ta ≠ 0)

/-- `Convert` is a cascade of guards; this is the one place where the cascade is walked. -/
theorem convert_eq (pip10 h : Nat) (amt : Int) (fr fa tr ta : Nat) (x : Int) :
    convert pip10 h amt fr fa tr ta = some x ↔
      ConvGuard pip10 h amt fr fa tr ta ∧
      x = amt * (srcRate pip10 h fr fa : Int) / (dstRate pip10 h tr ta : Int) ∧ x ≤ (maxInt64 : Int) := by
  unfold ConvGuard
  fun_cases convert pip10 h amt fr fa tr ta
  case case1 h1 => exact ⟨nofun, fun g => absurd h1 (Int.not_lt.2 g.1.1)⟩
  case case2 h2 => exact ⟨nofun, fun g => (h2.elim g.1.2.1 g.1.2.2.1).elim⟩
  case case3 h3 => exact ⟨nofun, fun g => (h3.2.elim (g.1.2.2.2 h3.1).1 (g.1.2.2.2 h3.1).2).elim⟩
  case case4 h1 h2 h3 _ _ _ h4 =>
    -- the `src` and `dst` of the function body are `srcRate` and `dstRate` unfolded
    have g : 0 ≤ amt ∧ fr ≠ 0 ∧ tr ≠ 0 ∧ (h ≥ pip10 → fa ≠ 0 ∧ ta ≠ 0) :=
      ⟨Int.not_lt.1 h1, fun e => h2 (.inl e), fun e => h2 (.inr e),
       fun hp => ⟨fun e => h3 ⟨hp, .inl e⟩, fun e => h3 ⟨hp, .inr e⟩⟩⟩
    exact ⟨fun e => ⟨g, (Option.some.inj e).symm, Option.some.inj e ▸ h4⟩, fun g => g.2.1 ▸ rfl⟩
  case case5 h4 => exact ⟨nofun, fun g => absurd (le_of_eq_of_le g.2.1.symm g.2.2) h4⟩

theorem convert_floor {pip10 h : Nat} {amt : Int} {fr fa tr ta : Nat} {x : Int}
    (hc : convert pip10 h amt fr fa tr ta = some x) :
    x * (dstRate pip10 h tr ta : Int) ≤ amt * (srcRate pip10 h fr fa : Int) ∧
    amt * (srcRate pip10 h fr fa : Int) < (x + 1) * (dstRate pip10 h tr ta : Int) := by
  obtain ⟨g, hx, _⟩ := (convert_eq ..).1 hc
  have hd : (0 : Int) < (dstRate pip10 h tr ta : Int) := Int.natCast_pos.2 (Nat.lt_of_lt_of_le (Nat.pos_of_ne_zero g.2.2.1) (dstRate_ge pip10 h tr ta))
  subst hx
  exact ⟨Int.ediv_mul_le _ (Int.ne_of_gt hd), Int.lt_ediv_add_one_mul_self _ hd⟩

theorem convert_nonneg {pip10 h : Nat} {amt : Int} {fr fa tr ta : Nat} {x : Int}
    (hc : convert pip10 h amt fr fa tr ta = some x) : 0 ≤ x := by
  obtain ⟨g, hx, _⟩ := (convert_eq ..).1 hc
  subst hx
  exact Int.ediv_nonneg (Int.mul_nonneg g.1 (Int.natCast_nonneg _)) (Int.natCast_nonneg _)

theorem convert_le {pip10 h : Nat} {amt : Int} {fr fa tr ta : Nat} {x : Int}
    (hc : convert pip10 h amt fr fa tr ta = some x) : x ≤ (maxInt64 : Int) :=
  ((convert_eq ..).1 hc).2.2

/-- a conversion never yields more value (at spot rates) than was put in:
    `x·tr ≤ x·dst ≤ amt·src ≤ amt·fr` -/
theorem convert_value_le {pip10 h : Nat} {amt : Int} {fr fa tr ta : Nat} {x : Int}
    (hc : convert pip10 h amt fr fa tr ta = some x) :
    x * (tr : Int) ≤ amt * (fr : Int) :=
  have g := ((convert_eq ..).1 hc).1
  Int.le_trans
    (Int.le_trans (Int.mul_le_mul_of_nonneg_left (Int.ofNat_le.2 (dstRate_ge pip10 h tr ta)) (convert_nonneg hc))
      (convert_floor hc).1)
    (Int.mul_le_mul_of_nonneg_left (Int.ofNat_le.2 (srcRate_le pip10 h fr fa)) g.1)

theorem convertD_cases (pip10 h : Nat) (amt : Int) (fr fa tr ta : Nat) :
    convertD pip10 h amt fr fa tr ta = 0 ∨
    convert pip10 h amt fr fa tr ta = some (convertD pip10 h amt fr fa tr ta) := by
  unfold convertD
  cases convert pip10 h amt fr fa tr ta with
  | none => exact Or.inl rfl
  | some x => exact Or.inr rfl

theorem convertD_nonneg (pip10 h : Nat) (amt : Int) (fr fa tr ta : Nat) :
    0 ≤ convertD pip10 h amt fr fa tr ta := by
  rcases convertD_cases pip10 h amt fr fa tr ta with e | hc
  · rw [e]
    exact Int.le_refl 0
  · exact convert_nonneg hc

theorem convertD_le (pip10 h : Nat) (amt : Int) (fr fa tr ta : Nat) : convertD pip10 h amt fr fa tr ta ≤ (maxInt64 : Int) := by
  rcases convertD_cases pip10 h amt fr fa tr ta with e | hc
  · rw [e]
    exact Int.natCast_nonneg _
  · exact convert_le hc

theorem convertD_value_le (pip10 h : Nat) (amt : Int) (fr fa tr ta : Nat) (ha : 0 ≤ amt) :
    convertD pip10 h amt fr fa tr ta * (tr : Int) ≤ amt * (fr : Int) := by
  rcases convertD_cases pip10 h amt fr fa tr ta with e | hc
  · rw [e, Int.zero_mul]
    exact Int.mul_nonneg ha (Int.natCast_nonneg fr)
  · exact convert_value_le hc

theorem convertD_neg (pip10 h : Nat) (amt : Int) (fr fa tr ta : Nat) (ha : amt < 0) :
    convertD pip10 h amt fr fa tr ta = 0 := by
  unfold convertD convert
  rw [if_pos ha]
  rfl

end Pegnet

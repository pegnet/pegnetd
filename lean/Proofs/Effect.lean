import Proofs.Supply
/-
  Additive effects on the balance table.
  `Outcome r post`: the run `r` satisfies `post`, or failed with something other than "insufficient
  balance".  `Adds I obs m d`: from every state satisfying `I`, such a run of `m` re-establishes `I`
  and moves each observable `obs · i` by exactly `d i`; effects add up along a program, and a loop
  adds the sum of its rounds.  A `Ledger` is a pair `I`, `obs` that reads the balance table only,
  with what one credit adds; a debit that goes through is a credit of the negated amount.  Balances
  (`balLedger`: `balAt`, a credit adds `cell`) and per-asset supply (`supplyLedger`: `DB.supply`, a
  credit adds `col`) are the two ledgers.  A composite function of the block is analysed once, for
  any ledger `L`, from `L.addBal`, the `L.insert…`/`L.set…` lemmas of the writes that leave the balance
  table alone, `Adds.bind`/`then_keep`/`keep_then` and `Adds.forEach`, and instantiated at both; the
  result is read off by `Adds.of_ok` for a run known to succeed, by `Moves.outcome` as an `Outcome`.
-/
namespace Pegnet

def NotShort (e : Failure) : Prop := e ≠ .uncaught "insufficient balance"

def Outcome {α} (r : Res DB α) (post : α → DB → Prop) : Prop :=
  match r with
  | .ok a s' => post a s'
  | .fail e _ => NotShort e

theorem Outcome.bind {α β} {m : LM α} {f : α → LM β} {s : DB} {p : α → DB → Prop} {q : β → DB → Prop}
    (hm : Outcome (m s) p) (hf : ∀ a s1, p a s1 → Outcome (f a s1) q) : Outcome ((m >>= f) s) q := by
  rw [M.bind_run]
  cases hms : m s with
  | ok a s1 => rw [hms] at hm; exact hf a s1 hm
  | fail e s1 => rw [hms] at hm; exact hm

theorem Outcome.mono {α} {r : Res DB α} {p q : α → DB → Prop} (h : Outcome r p) (hpq : ∀ a s, p a s → q a s) :
    Outcome r q := by
  cases r with
  | ok a s => exact hpq a s h
  | fail e s => exact h

theorem notShort_constraint (w : String) : NotShort (.sqlConstraint w) := fun h => by cases h
theorem notShort_sqlError (w : String) : NotShort (.sqlError w) := fun h => by cases h
theorem notShort_uncaught {w : String} (h : w ≠ "insufficient balance") : NotShort (.uncaught w) :=
  fun e => h (by injection e)

structure Adds {ι α} (I : DB → Prop) (obs : DB → ι → Int) (m : LM α) (d : ι → Int) : Prop where
  run : ∀ s, I s → Outcome (m s) (fun _ s' => I s' ∧ ∀ i, obs s' i = obs s i + d i)

namespace Adds
variable {ι α β : Type} {I : DB → Prop} {obs : DB → ι → Int}

theorem pure (a : α) : Adds I obs (Pure.pure a : LM α) (fun _ => 0) :=
  ⟨fun _ hs => ⟨hs, fun _ => (Int.add_zero _).symm⟩⟩

theorem throw {e : Failure} (he : NotShort e) (d : ι → Int) : Adds I obs (M.throw e : LM α) d :=
  ⟨fun _ _ => he⟩

theorem congr {m : LM α} {d d' : ι → Int} (h : Adds I obs m d) (e : ∀ i, d i = d' i) : Adds I obs m d' :=
  ⟨fun s hs => Outcome.mono (h.run s hs) fun _ _ ⟨hi, ho⟩ => ⟨hi, fun i => by rw [ho i, e i]⟩⟩

theorem bind {m : LM α} {f : α → LM β} {d₁ d₂ : ι → Int} (hm : Adds I obs m d₁) (hf : ∀ a, Adds I obs (f a) d₂) :
    Adds I obs (m >>= f) (fun i => d₁ i + d₂ i) :=
  ⟨fun s hs => Outcome.bind (hm.run s hs) fun a s1 ⟨h1, e1⟩ =>
    Outcome.mono ((hf a).run s1 h1) fun _ _ ⟨h2, e2⟩ => ⟨h2, fun i => by rw [e2 i, e1 i, Int.add_assoc]⟩⟩

theorem then_keep {m : LM α} {f : α → LM β} {d : ι → Int} (hm : Adds I obs m d) (hf : ∀ a, Adds I obs (f a) (fun _ => 0)) :
    Adds I obs (m >>= f) d :=
  (hm.bind hf).congr fun _ => Int.add_zero _

theorem keep_then {m : LM α} {f : α → LM β} {d : ι → Int} (hm : Adds I obs m (fun _ => 0)) (hf : ∀ a, Adds I obs (f a) d) :
    Adds I obs (m >>= f) d :=
  (hm.bind hf).congr fun _ => Int.zero_add _

theorem forEach {κ} {f : κ → LM Unit} {d : κ → ι → Int} (hf : ∀ k, Adds I obs (f k) (d k)) :
    ∀ l : List κ, Adds I obs (M.forEach l f) (fun i => (l.map (d · i)).sum)
  | [] => pure ()
  | k :: ks => ((hf k).bind fun _ => forEach hf ks).congr fun _ => by simp only [List.map_cons, List.sum_cons]

theorem guarded {g : DB → Option Failure} {u : DB → DB} {d : ι → Int} (hg : ∀ s e, g s = some e → NotShort e)
    (hu : ∀ s, I s → g s = none → I (u s) ∧ ∀ i, obs (u s) i = obs s i + d i) : Adds I obs (M.guarded g u) d := by
  constructor
  intro s hs
  fun_cases M.guarded g u s
  case case1 e hgs => exact hg s e hgs
  case case2 hgs => exact hu s hs hgs

theorem of_ok {m : LM α} {d : ι → Int} (h : Adds I obs m d) {s s' : DB} {a : α} (hs : I s) (hr : m s = .ok a s') :
    I s' ∧ ∀ i, obs s' i = obs s i + d i := by
  have := h.run s hs
  rw [hr] at this
  exact this

theorem addBal {d : ι → Int} (P : Params) (a : Addr) (t : Ticker) (v : Nat)
    (hu : ∀ s, I s → I { s with addrs := upsertAdd s.addrs a t v } ∧
      ∀ i, obs { s with addrs := upsertAdd s.addrs a t v } i = obs s i + d i) :
    Adds I obs (Pegnet.addBal P a t v) d :=
  guarded
    (fun _ _ h => by
      split at h
      · cases h
        exact notShort_sqlError _
      · split at h <;> cases h
        exact notShort_sqlError _)
    fun s hs _ => hu s hs

end Adds

structure Ledger {ι : Type} (I : DB → Prop) (obs : DB → ι → Int) (credit : Addr → Ticker → Int → ι → Int) : Prop where
  inv_of_addrs : ∀ {s s' : DB}, s'.addrs = s.addrs → I s → I s'
  obs_of_addrs : ∀ {s s' : DB}, s'.addrs = s.addrs → ∀ i, obs s' i = obs s i
  addBal : ∀ P a t (v : Nat), Adds I obs (Pegnet.addBal P a t v) (credit a t v)
  subBal : ∀ {P a t} {v : Nat} {s s' : DB}, I s → Pegnet.subBal P a t v s = .ok true s' →
    I s' ∧ ∀ i, obs s' i = obs s i + credit a t (-(v : Int)) i

section ledger
variable {ι : Type} {I : DB → Prop} {obs : DB → ι → Int} {credit : Addr → Ticker → Int → ι → Int} (L : Ledger I obs credit)
include L

theorem Ledger.keep {g : DB → Option Failure} {u : DB → DB} (hg : ∀ s e, g s = some e → NotShort e)
    (hu : ∀ s, (u s).addrs = s.addrs) : Adds I obs (M.guarded g u) (fun _ => 0) :=
  Adds.guarded hg fun s hs _ => ⟨L.inv_of_addrs (hu s) hs, fun i => by rw [L.obs_of_addrs (hu s) i, Int.add_zero]⟩

theorem Ledger.insertHistBatch (r : HistBatch) : Adds I obs (insertHistBatch r) (fun _ => 0) :=
  L.keep (fun _ _ h => by split at h <;> cases h; exact notShort_constraint _) fun _ => rfl
theorem Ledger.insertHistTx (r : HistTx) : Adds I obs (insertHistTx r) (fun _ => 0) :=
  L.keep (fun _ _ h => by split at h <;> cases h; exact notShort_constraint _) fun _ => rfl
theorem Ledger.insertLookup (r : HistLookup) : Adds I obs (insertLookup r) (fun _ => 0) :=
  L.keep (fun _ _ h => by cases h) fun _ => by split <;> rfl
theorem Ledger.insertRelation (hash : Hash) (a : Addr) (i : Nat) (t c : Bool) :
    Adds I obs (insertRelation hash a i t c) (fun _ => 0) :=
  L.keep (fun _ _ h => by cases h) fun _ => by split <;> rfl
theorem Ledger.setExecuted (hash : Hash) (v : Int) : Adds I obs (setExecuted hash v) (fun _ => 0) :=
  L.keep (fun _ _ h => by cases h) fun _ => rfl
theorem Ledger.setConvertedAmount (hash : Hash) (i : Nat) (v : Int) : Adds I obs (setConvertedAmount hash i v) (fun _ => 0) :=
  L.keep (fun _ _ h => by cases h) fun _ => rfl
theorem Ledger.setPegConverted (hash : Hash) (i : Nat) (v : Int) (o : String) :
    Adds I obs (setPegConverted hash i v o) (fun _ => 0) :=
  L.keep (fun _ _ h => by cases h) fun _ => rfl
theorem Ledger.updateBank (bh u r : Int) : Adds I obs (updateBank bh u r) (fun _ => 0) :=
  L.keep (fun _ _ h => by split at h <;> cases h; exact notShort_uncaught (by simp)) fun _ => rfl

/-- the common body of `applyFct`, `applyGradedOPR` and `applyGradedSPR` -/
theorem Ledger.creditWithHistory (P : Params) (a : Addr) (t : Ticker) (v : Nat) (b : HistBatch) (r : HistTx) (l : HistLookup) :
    Adds I obs (do Pegnet.addBal P a t v; Pegnet.insertHistBatch b; Pegnet.insertHistTx r; Pegnet.insertLookup l) (credit a t v) :=
  (L.addBal P a t v).then_keep fun _ => (L.insertHistBatch b).then_keep fun _ =>
    (L.insertHistTx r).then_keep fun _ => L.insertLookup l

end ledger

def balAt (s : DB) (i : Addr × Ticker) : Int := s.bal i.1 i.2

/-- what crediting `v` to the cell `(a, t)` does to the balances -/
def cell (a : Addr) (t : Ticker) (v : Int) (i : Addr × Ticker) : Int := if i.1 = a ∧ i.2 = t then v else 0

theorem cell_neg (a : Addr) (t : Ticker) (v : Int) (i : Addr × Ticker) : cell a t (-v) i = -cell a t v i := by
  unfold cell
  split <;> rfl

abbrev Moves {α} (m : LM α) (d : Addr × Ticker → Int) : Prop := Adds (fun _ => True) balAt m d

theorem bal_updRow_add (db : DB) (a a' : Addr) (t t' : Ticker) (v : Int) (hrow : (findRow db.addrs a).isSome = true) :
    ({ db with addrs := updRow db.addrs a t (· + v) } : DB).bal a' t' =
      db.bal a' t' + (if a' = a ∧ t' = t then v else 0) := by
  rw [bal_updRow]
  by_cases hc : a' = a ∧ t' = t
  · rw [if_pos ⟨hc.1, hc.2, hc.1 ▸ hrow⟩, if_pos hc]
  · rw [if_neg fun h => hc ⟨h.1, h.2.1⟩, if_neg hc, Int.add_zero]

theorem bal_upsertAdd (db : DB) (a a' : Addr) (t t' : Ticker) (v : Int) :
    ({ db with addrs := upsertAdd db.addrs a t v } : DB).bal a' t' =
      db.bal a' t' + (if a' = a ∧ t' = t then v else 0) := by
  fun_cases upsertAdd db.addrs a t v
  case case1 r hf => exact bal_updRow_add db a a' t t' v (hf ▸ rfl)
  case case2 hf =>
    show (match findRow (db.addrs ++ [_]) a' with | some r => getB r.bals t' | none => 0) = _
    rw [findRow_append_singleton]
    by_cases haa : a' = a
    · subst haa
      rw [hf, if_pos (beq_self_eq_true _), DB.bal, hf]
      show getB (setB [] t v) t' = 0 + _
      rw [getB_setB, getB_nil, Int.zero_add]
      exact ite_congr (propext ⟨fun h => ⟨rfl, h.symm⟩, fun h => h.2.symm⟩) (fun _ => rfl) (fun _ => rfl)
    · rw [if_neg fun e => haa (eq_of_beq e).symm, Option.or_none, if_neg fun h => haa h.1, Int.add_zero]
      rfl

theorem balLedger : Ledger (fun _ => True) balAt cell where
  inv_of_addrs _ h := h
  obs_of_addrs e i := by unfold balAt DB.bal; rw [e]
  addBal P a t v := Adds.addBal P a t v fun s _ => ⟨trivial, fun i => bal_upsertAdd s a i.1 t i.2 v⟩
  subBal {_ a t _ s _} _ h := ⟨trivial, fun i => by
    rcases subBal_ok h with ⟨hb, _⟩ | ⟨_, hv, e⟩ | ⟨_, _, _, hrow, e⟩
    · cases hb
    · subst e hv
      exact bal_upsertAdd s a i.1 t i.2 _
    · subst e
      exact bal_updRow_add s a i.1 t i.2 _ hrow⟩

/-- the shape in which the event theorems state an effect on balances -/
theorem Moves.outcome {α} {m : LM α} {d : Addr × Ticker → Int} {d' : Addr → Ticker → Int} (h : Moves m d) (s : DB)
    (e : ∀ a x, d (a, x) = d' a x := by intros; rfl) :
    Outcome (m s) (fun _ s' => ∀ a x, s'.bal a x = s.bal a x + d' a x) :=
  Outcome.mono (h.run s trivial) fun _ _ hh a x => (hh.2 (a, x)).trans (congrArg (s.bal a x + ·) (e a x))

theorem supplyLedger : Ledger AddrsOK DB.supply (fun _ => col) where
  inv_of_addrs e h := by unfold AddrsOK at *; rw [e]; exact h
  obs_of_addrs e i := by unfold DB.supply; rw [e]
  addBal P a t v := Adds.addBal P a t v fun s hs =>
    ⟨addrsOK_upsertAdd s a t v hs, fun t' => rowsSupply_upsertAdd s.addrs a t t' v hs.1⟩
  subBal := subBal_supply

end Pegnet

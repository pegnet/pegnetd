import Proofs.NonInterference
/-
  The bookkeeping invariant behind C02, `InOrder`, as a fact about one node. Each thing a process does to its
  node keeps it: a block that commits appends the row of the next height (`blockTx_bump`; `inOrder_attempt`),
  start-up back-fills rows only under heights that are missing, none of which is above the starting height
  (`inOrder_restart`), and whatever leaves database and height alone changes nothing (`InOrder.congr`).
  `Proofs/Process` carries it along runs (`runEvs_inOrder`).
-/
namespace Pegnet

def heightsAbove (lo : Nat) (rows : VRows) : List Nat := (rows.filter (fun r => decide (r.1 > lo))).map (·.1)

/-- "heights are applied once each, in order, without gaps": above the height `lo` the process
    started from, the version table lists exactly `lo+1, lo+2, …, Synced`, in this order, each
    once; the recorded sync height is the in-memory one; no row is above it. -/
structure InOrder (P : Params) (lo : Nat) (n : Node) : Prop where
  mem_ge : lo ≤ n.mem
  synced : n.db.synced.getD P.act.pegnet = n.mem
  rows_le : ∀ r ∈ n.db.syncVersions, r.1 ≤ n.mem
  nodup : (n.db.syncVersions.map (·.1)).Nodup
  rows : heightsAbove lo n.db.syncVersions = List.range' (lo + 1) (n.mem - lo)

theorem heightsAbove_snoc (lo : Nat) (rows : VRows) (r : Nat × Int) :
    heightsAbove lo (rows ++ [r]) = heightsAbove lo rows ++ (if r.1 > lo then [r.1] else []) := by
  unfold heightsAbove
  rw [List.filter_append, List.map_append]
  by_cases hr : r.1 > lo
  · simp only [List.filter_cons, List.filter_nil, hr, decide_true, if_true, List.map_cons, List.map_nil]
  · simp only [List.filter_cons, List.filter_nil, hr, decide_false, if_false, List.map_nil, Bool.false_eq_true]

theorem inOrder_start (P : Params) (n : Node) (hs : n.db.synced.getD P.act.pegnet = n.mem)
    (hle : ∀ r ∈ n.db.syncVersions, r.1 ≤ n.mem) (hn : (n.db.syncVersions.map (·.1)).Nodup) :
    InOrder P n.mem n where
  mem_ge := Nat.le_refl _
  synced := hs
  rows_le := hle
  nodup := hn
  rows := by
    unfold heightsAbove
    rw [List.filter_eq_nil_iff.2 fun r hr => by rw [decide_eq_true_eq]; exact Nat.not_lt.2 (hle r hr), Nat.sub_self]
    rfl

theorem inOrder_fresh (P : Params) : InOrder P (freshNode P).mem (freshNode P) :=
  inOrder_start P (freshNode P) rfl nofun List.nodup_nil

namespace InOrder
variable {P : Params} {lo : Nat} {n n' : Node}

theorem congr (hdb : n'.db = n.db) (hmem : n'.mem = n.mem) (h : InOrder P lo n) : InOrder P lo n' := by
  constructor
  · rw [hmem]; exact h.mem_ge
  · rw [hdb, hmem]; exact h.synced
  · rw [hdb, hmem]; exact h.rows_le
  · rw [hdb]; exact h.nodup
  · rw [hdb, hmem]; exact h.rows

theorem has_row (h : InOrder P lo n) {k : Nat} (h1 : lo < k) (h2 : k ≤ n.mem) : ∃ r ∈ n.db.syncVersions, r.1 = k := by
  have hk : k ∈ heightsAbove lo n.db.syncVersions := by
    rw [h.rows, List.mem_range'_1, Nat.add_right_comm, Nat.add_sub_cancel' h.mem_ge]
    exact ⟨h1, Nat.lt_succ_of_le h2⟩
  obtain ⟨r, hr, e⟩ := List.mem_map.1 hk
  exact ⟨r, (List.mem_filter.1 hr).1, e⟩

theorem snoc_next (h : InOrder P lo n) {v : Int} (hsv : n'.db.syncVersions = n.db.syncVersions ++ [(n.mem + 1, v)])
    (hsy : n'.db.synced = some (n.mem + 1)) (hm : n'.mem = n.mem + 1) : InOrder P lo n' := by
  have hge := h.mem_ge
  constructor
  · rw [hm]; exact Nat.le_succ_of_le hge
  · rw [hsy, hm]; rfl
  · rw [hsv, hm]
    intro r hr
    rcases List.mem_append.1 hr with hr | hr
    · exact Nat.le_succ_of_le (h.rows_le r hr)
    · rw [List.mem_singleton.1 hr]; exact Nat.le_refl _
  · rw [hsv]
    exact nodup_keys_snoc h.nodup fun r hr => Nat.ne_of_lt (Nat.lt_succ_of_le (h.rows_le r hr))
  · have e : lo + 1 + 1 * (n.mem - lo) = n.mem + 1 := by
      rw [Nat.one_mul, Nat.add_right_comm, Nat.add_sub_cancel' hge]
    rw [hsv, hm, heightsAbove_snoc, h.rows, if_pos (Nat.lt_succ_of_le hge), Nat.succ_sub hge, List.range'_concat, e]

/-- what the back-fill does; the height cannot be above `lo`, where no row is missing -/
theorem snoc_low (h : InOrder P lo n) {k : Nat} {v : Int} (hk : k ≤ n.mem) (hnew : ∀ r ∈ n.db.syncVersions, r.1 ≠ k)
    (hsv : n'.db.syncVersions = n.db.syncVersions ++ [(k, v)]) (hsy : n'.db.synced = n.db.synced)
    (hm : n'.mem = n.mem) : InOrder P lo n' := by
  have hlo : ¬ k > lo := fun hgt => by
    obtain ⟨r, hr, e⟩ := h.has_row hgt hk
    exact hnew r hr e
  constructor
  · rw [hm]; exact h.mem_ge
  · rw [hsy, hm]; exact h.synced
  · rw [hsv, hm]
    intro r hr
    rcases List.mem_append.1 hr with hr | hr
    · exact h.rows_le r hr
    · rw [List.mem_singleton.1 hr]; exact hk
  · rw [hsv]; exact nodup_keys_snoc h.nodup hnew
  · rw [hsv, hm, heightsAbove_snoc, h.rows, if_neg hlo, List.append_nil]

theorem no_next (h : InOrder P lo n) : n.db.syncVersions.any (·.1 == n.mem + 1) = false :=
  List.any_eq_false.2 fun r hr he => Nat.not_succ_le_self n.mem (Nat.le_trans (Nat.le_of_eq (beq_iff_eq.1 he).symm) (h.rows_le r hr))

end InOrder

theorem inOrder_restart {P : Params} {lo : Nat} {n : Node} (h : InOrder P lo n) : InOrder P lo (restart P n) :=
  InOrder.congr (n := { n with db := { n.db with syncVersions := backfill P.forks n.db.synced n.db.syncVersions } }) rfl h.synced <|
    backfill_ind (I := fun rows => InOrder P lo { n with db := { n.db with syncVersions := rows } }) h
      fun s r k hs hk hnew hr => hr.snoc_low (by have := h.synced; rw [hs] at this; exact this ▸ hk) hnew rfl rfl rfl

theorem inOrder_attempt {P : Params} {lo : Nat} {n : Node} (b : Block) (hb : b.height = n.mem + 1)
    (h : InOrder P lo n) : InOrder P lo (applyBlock P n b).1 := by
  rcases applyBlock_cases P n b with ⟨_, _, hdb, hm⟩ | ⟨s', avgs, hs, hdb, _, hm⟩
  · exact h.congr hdb hm
  · obtain ⟨_, hsv, hsy⟩ := blockTx_bump hs
    rw [hb] at hsv hsy hm
    exact h.snoc_next (by rw [hdb]; exact hsv) (by rw [hdb]; exact hsy) hm

end Pegnet

import Proofs.AvgWindow
import Proofs.Process
/-
  Restart independence ABOVE PIP-10, on chains whose averaging windows have no holes.

  Two processes with the same database whose caches both hold "the window of their height"
  (`CacheGood`: true of the empty cache of a fresh process and kept by every block) answer every
  ticker alike, so they apply the next block identically — and both stay good. The only hypothesis
  is the one the known finding is about: when the incremental path is taken, the window it starts
  from has no hole (`NoHole`), i.e. no ungraded block sits inside it after a quoted height.
-/
namespace Pegnet

/-- `CacheOK` and `CacheSem` over the node's database, and the cache's height has been synced -/
structure CacheGood (P : Params) (n : Node) : Prop where
  ok : CacheOK P n.cache
  sem : CacheSem P n.db n.cache
  le : n.cache.height ≤ n.mem

theorem cacheGood_fresh (P : Params) : CacheGood P (freshNode P) :=
  ⟨cacheOK_empty P, cacheSem_empty P _, Nat.zero_le _⟩

theorem CacheGood.frame {P : Params} {n n' : Node} (hg : CacheGood P n) (hc : n'.cache = n.cache)
    (hr : ∀ g, g ≤ n.mem → n'.db.ratesAt g = n.db.ratesAt g) (hm : n.mem ≤ n'.mem) : CacheGood P n' := by
  refine ⟨hc ▸ hg.ok, ?_, ?_⟩
  · rw [hc]
    intro t
    rw [hg.sem t, window_congr P n.db n'.db n.cache.height t fun g hgle => hr g (Nat.le_trans hgle hg.le)]
  · rw [hc]; exact Nat.le_trans hg.le hm

theorem getAverages_good (P : Params) (hp : 0 < P.avgPeriod) (db : DB) (c : AvgCache) (height : Nat)
    (hc : CacheOK P c) (hs : CacheSem P db c) (hh : ∀ t, NoHole P db (height - 1) t) :
    CacheOK P (getAverages P db c height).1 ∧ CacheSem P db (getAverages P db c height).1 ∧
      (getAverages P db c height).1.height = height ∧
      (getAverages P db c height).2 = (getAverages P db c height).1.avgs := by
  obtain ⟨hok, he⟩ := getAverages_ok P hp db c height hc
  obtain ⟨hsem, hht⟩ := getAverages_sem P hp db c height hs (fun e t => by subst e; exact hh t)
  exact ⟨hok, hsem, hht, he⟩

theorem good_answer (P : Params) (hp : 0 < P.avgPeriod) (db : DB) (c : AvgCache) (height : Nat)
    (hc : CacheOK P c) (hs : CacheSem P db c) (hh : ∀ t, NoHole P db (height - 1) t) (t : Ticker) :
    (getAverages P db c height).2.get t = avgOf P (window P db height t) := by
  obtain ⟨hok, hsem, hht, he⟩ := getAverages_good P hp db c height hc hs hh
  rw [he, hok.avgs, computeAverages_get_series, hsem t, hht]

theorem good_answers_agree (P : Params) (hp : 0 < P.avgPeriod) (db : DB) (c₁ c₂ : AvgCache) (height : Nat)
    (h1 : CacheOK P c₁) (s1 : CacheSem P db c₁) (h2 : CacheOK P c₂) (s2 : CacheSem P db c₂)
    (hh : ∀ t, NoHole P db (height - 1) t) (t : Ticker) :
    (getAverages P db c₁ height).2.get t = (getAverages P db c₂ height).2.get t := by
  rw [good_answer P hp db c₁ height h1 s1 hh, good_answer P hp db c₂ height h2 s2 hh]

/-- Block `h` applied on `db` asks the averages for `F = (db.mostRecentRatesBefore h).2`, and the incremental path
    steps from the window of `F - 1` to that of `F`: it is the window of `F - 1` (hence the `- 1`) that has no hole,
    for every ticker. -/
def WindowsWhole (P : Params) (db : DB) (h : Nat) : Prop :=
  ∀ t, NoHole P db ((db.mostRecentRatesBefore h).2 - 1) t

/- `{ db with avgTouched := false }` has the rates of `db`: `CacheSem`, `NoHole` and
   `mostRecentRatesBefore` of the two are the same by unfolding. -/

theorem touchCache_good (P : Params) (hp : 0 < P.avgPeriod) (n : Node) (b : Block) (hb : b.height = n.mem + 1)
    (hg : CacheGood P n) (hw : WindowsWhole P n.db b.height) :
    CacheGood P { n with cache := touchCache P n b } := by
  have hlt := mostRecentRatesBefore_lt { n.db with avgTouched := false } b.height (by rw [hb]; exact Nat.succ_pos _)
  obtain ⟨hok, hsem, hht, _⟩ := getAverages_good P hp { n.db with avgTouched := false } n.cache
    (({ n.db with avgTouched := false } : DB).mostRecentRatesBefore b.height).2 hg.ok hg.sem hw
  -- by transitivity: rewriting with `hb` would also hit the height inside `mostRecentRatesBefore`
  exact ⟨hok, hsem, Nat.le_of_lt_succ (Nat.lt_of_lt_of_eq (Nat.lt_of_le_of_lt (Nat.le_of_eq hht) hlt) hb)⟩

theorem applyBlock_good (P : Params) (hp : 0 < P.avgPeriod) (n : Node) (b : Block) (hb : b.height = n.mem + 1)
    (hg : CacheGood P n) (hw : WindowsWhole P n.db b.height) : CacheGood P (applyBlock P n b).1 := by
  have hr : ∀ g, g ≤ n.mem → (applyBlock P n b).1.db.ratesAt g = n.db.ratesAt g :=
    fun g hgle => applyBlock_ratesAt P n b g (by rw [hb]; exact Nat.ne_of_lt (Nat.lt_succ_of_le hgle))
  have hm : n.mem ≤ (applyBlock P n b).1.mem := by
    rcases applyBlock_cases P n b with ⟨_, _, _, hm⟩ | ⟨_, _, _, _, _, hm⟩
    · rw [hm]; exact Nat.le_refl _
    · rw [hm, hb]; exact Nat.le_succ _
  rcases applyBlock_cache P n b with hc | hc
  · exact hg.frame hc hr hm
  · exact (touchCache_good P hp n b hb hg hw).frame hc hr hm

/-- **the average a block is priced with is the mean of the height window** ending at the last rated
    height before it — whatever path (cache hit, reload, incremental) produced it — for a process whose
    cache is good and whose window has no hole -/
theorem pricing_average_is_window_mean (P : Params) (hp : 0 < P.avgPeriod) (n : Node) (b : Block)
    (hg : CacheGood P n) (hw : WindowsWhole P n.db b.height) (t : Ticker) :
    (pricingAvgs P n b).get t = avgOf P (window P n.db (n.db.mostRecentRatesBefore b.height).2 t) :=
  good_answer P hp ({ n.db with avgTouched := false } : DB) n.cache (n.db.mostRecentRatesBefore b.height).2
    hg.ok hg.sem hw t

/-- along the run, at every event (an iteration that completes or is cut short, a restart), the
    averaging window the incremental path may start from has no hole (`WindowsWhole`): what stands for the height bound
    `BelowPip10` above PIP-10 -/
def WholeRun (P : Params) (ch : Nat → Block) : Node → List Ev → Prop
  | _, [] => True
  | n, e :: es => WindowsWhole P n.db (n.mem + 1) ∧ WholeRun P ch (stepEv P ch n e) es

theorem stepEv_good (P : Params) (hp : 0 < P.avgPeriod) (ch : Nat → Block) (hch : ∀ h, (ch h).height = h) (n : Node) (e : Ev)
    (hg : CacheGood P n) (hw : WindowsWhole P n.db (n.mem + 1)) : CacheGood P (stepEv P ch n e) := by
  rw [← hch (n.mem + 1)] at hw
  fun_cases stepEv P ch n e
  case case1 => exact applyBlock_good P hp n _ (hch _) hg hw
  case case2 => exact touchCache_good P hp n _ (hch _) hg hw
  case case3 => exact hg
  case case4 => exact ⟨cacheOK_empty P, cacheSem_empty P _, Nat.zero_le _⟩

/-- **Restart independence above PIP-10 on runs whose windows have no hole.** Any run of the daemon
    — completed iterations, iterations cut short, restarts — started with a good cache ends in the
    ledger and sync height of the run with everything but the completed iterations erased, at
    EVERY height (no PIP-10 bound), provided no averaging window the incremental path starts from
    has a hole (`WholeRun`). The hypothesis is exactly what the known finding violates: an
    ungraded block inside the window, after a quoted height. -/
theorem only_attempts_matter_whole (P : Params) (hp : 0 < P.avgPeriod) (ch : Nat → Block) (hch : ∀ h, (ch h).height = h) (lo : Nat)
    (es : List Ev) (n₁ n₂ : Node) (A : VRows) (hdb : n₁.db = { n₂.db with syncVersions := A }) (hmem : n₁.mem = n₂.mem)
    (h1 : InOrder P lo n₁) (h2 : InOrder P lo n₂) (g1 : CacheGood P n₁) (g2 : CacheGood P n₂)
    (hw : WholeRun P ch n₁ es) :
    (runEvs P ch n₁ es).db.ledger = (runEvs P ch n₂ (es.filter Ev.isAttempt)).db.ledger ∧
    (runEvs P ch n₁ es).mem = (runEvs P ch n₂ (es.filter Ev.isAttempt)).mem := by
  refine (runEvs_erase Ev.isAttempt (Sim := fun n₁ n₂ => SameLedger P lo n₁ n₂ ∧ CacheGood P n₁ ∧ CacheGood P n₂)
    (Hd := fun n _ => WindowsWhole P n.db (n.mem + 1)) (fun _ _ _ h => h) ?_ es n₁ n₂
    ⟨⟨⟨A, hdb⟩, hmem, h1, h2⟩, g1, g2⟩ hw).1.ledger
  intro n₁ n₂ e ⟨h, g1, g2⟩ hw1
  have g1' := stepEv_good P hp ch hch n₁ e g1 hw1
  cases e with
  | aborted t => exact ⟨h.aborted t, g1', g2⟩
  | restart => exact ⟨h.restarted, g1', g2⟩
  | attempt =>
    obtain ⟨A, hA⟩ := h.db
    -- the version table is read neither by `mostRecentRatesBefore` nor by the windows
    have hw2 : WindowsWhole P n₂.db (n₂.mem + 1) := by rw [hA, h.mem] at hw1; exact hw1
    refine ⟨h.attempt hch fun c => blockTx_get c _ _ _ fun t => ?_, g1', stepEv_good P hp ch hch n₂ .attempt g2 hw2⟩
    rw [← hch (n₁.mem + 1)] at hw1
    rw [← h.mem, ← hch (n₁.mem + 1)] at hw2
    rw [pricing_average_is_window_mean P hp n₁ _ g1 hw1, pricing_average_is_window_mean P hp n₂ _ g2 hw2, hA]
    rfl

/-- `WholeRun` for a list of blocks (`runBlocks`) instead of events: each at the next height, no window with a hole
    on the way -/
def WholeChain (P : Params) : Node → List Block → Prop
  | _, [] => True
  | n, b :: bs => b.height = n.mem + 1 ∧ WindowsWhole P n.db b.height ∧ WholeChain P (applyBlock P n b).1 bs

theorem wholeChain_good (P : Params) (hp : 0 < P.avgPeriod) (bs : List Block) (b : Block) :
    ∀ n, CacheGood P n → WholeChain P n (bs ++ [b]) →
      CacheGood P (runBlocks P n bs) ∧ WindowsWhole P (runBlocks P n bs).db b.height := by
  induction bs with
  | nil => exact fun n hg ⟨_, hw, _⟩ => ⟨hg, hw⟩
  | cons x xs ih => exact fun n hg ⟨hx, hw, hrest⟩ => ih _ (applyBlock_good P hp n x hx hg hw) hrest

end Pegnet

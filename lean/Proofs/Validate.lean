import Pegnet.Batch
/-
  What fat2 validation accepts (`Transaction.Validate`, `TransactionBatch.ValidData` / `Validate`), spelled
  out: facts about decoded batches that need nothing of the block. And the two quantities of one
  transaction that the batch path and its specifications speak of: `convOf`, `backTo`.
-/
namespace Pegnet

/-- the conversion of `t` at the rates and averages the batch is executed with: the amount all of `pass1Tx`,
    `pass2` and `recordOutputs` compute -/
def convOf (P : Params) (h : Nat) (rates avgs : Option TMap) (t : Tx) : Option Int :=
  convert P.act.pip10 h (toInt64 t.inAmount) ((rates.getD []).get t.inType) ((avgs.getD []).get t.inType)
    ((rates.getD []).get t.conversion) ((avgs.getD []).get t.conversion)

/-- `back` in `pass2`: what the outputs `trs` of a transaction credit to `a` -/
def backTo (a : Addr) (trs : List Transfer) : Int :=
  ((trs.filter (·.addr == a)).map (fun tr => (tr.amount : Int))).sum

variable {P : Params}

theorem not_conversion_of_transfers {t : Tx} (htr : t.transfers ≠ []) :
    t.isConversion P = false ∧ t.isPEGRequest = false := by
  unfold Tx.isConversion Tx.isPEGRequest
  cases htl : t.transfers with
  | nil => exact absurd htl htr
  | cons _ _ => exact ⟨rfl, rfl⟩

theorem Tx.valid_xor {t : Tx} (hv : t.valid P = true) :
    (t.transfers ≠ [] ∧ t.conversion = 0) ∨ (t.transfers = [] ∧ t.conversion ≠ 0) := by
  revert hv
  fun_cases Tx.valid P t
  -- past the third and the fourth test of `Validate`; every other branch refuses
  case case8 h3 h4 _ _ _ _ =>
    cases htl : t.transfers with
    | nil => exact fun _ => .inr ⟨rfl, fun hc => h3 (by rw [htl, hc]; rfl)⟩
    | cons x xs => exact fun _ => .inl ⟨nofun, Nat.eq_zero_of_not_pos fun hc => h4 (by rw [htl]; exact decide_eq_true hc)⟩
  all_goals nofun

theorem validData_true {v : Nat} {txs : List Tx} (h : validData P v txs = true) :
    v = 1 ∧ txs ≠ [] ∧ (∀ t ∈ txs, t.valid P = true) ∧ ∀ t0 rest, txs = t0 :: rest → ∀ t ∈ rest, t.inAddr = t0.inAddr := by
  simp only [validData, Bool.and_eq_true, beq_iff_eq, List.all_eq_true, Bool.not_eq_true', List.isEmpty_eq_false_iff] at h
  refine ⟨h.1.1.1, h.1.1.2, h.1.2, fun t0 rest e => ?_⟩
  subst e
  exact fun t ht => eq_of_beq (List.all_eq_true.1 h.2 t ht)

theorem TxEntry.validAt_iff {e : TxEntry} {h : Nat} :
    e.validAt P h = true ↔ ∃ v txs, e.parsed = some (v, txs) ∧ validData P v txs = true ∧ e.sigOK P h = true ∧
      ∀ t ∈ txs, t.inAmount ≤ maxInt64 := by
  fun_cases TxEntry.validAt P e h
  case case1 hp => exact ⟨(nomatch ·), fun ⟨_, _, hp', _⟩ => nomatch hp.symm.trans hp'⟩
  case case2 v txs hp =>
    simp only [Bool.and_eq_true, List.all_eq_true, decide_eq_true_eq, and_assoc]
    refine ⟨fun hx => ⟨v, txs, hp, hx⟩, fun ⟨_, _, hp', hx⟩ => ?_⟩
    cases hp.symm.trans hp'
    exact hx

theorem validAt_txs_ne_nil {e : TxEntry} {hh : Nat} (hv : e.validAt P hh = true) : e.txs ≠ [] := by
  obtain ⟨_, _, hp, hd, _⟩ := TxEntry.validAt_iff.1 hv
  unfold TxEntry.txs
  rw [hp]
  exact (validData_true hd).2.1

end Pegnet

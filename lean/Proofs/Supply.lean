import Proofs.Balances
/-
  Per-asset supply (column sums of the balance table) under the primitive balance operations.
-/
namespace Pegnet

def rowsSupply (rows : List AddrRow) (t : Ticker) : Int := (rows.map (fun r => getB r.bals t)).sum

/-- what adding `v` to a cell of asset `t` does to the supply -/
def col (t : Ticker) (v : Int) (t' : Ticker) : Int := if t = t' then v else 0

theorem rowsSupply_updRow {rows : List AddrRow} {a : Addr} (t t' : Ticker) (v : Int)
    (hn : (rows.map (·.addr)).Nodup) (hf : (findRow rows a).isSome = true) :
    rowsSupply (updRow rows a t (· + v)) t' = rowsSupply rows t' + col t v t' := by
  induction rows with
  | nil => cases hf
  | cons x xs ih =>
    rw [List.map_cons, List.nodup_cons] at hn
    rw [findRow, List.find?_cons] at hf
    show getB (if x.addr == a then _ else x).bals t' + rowsSupply (updRow xs a t (· + v)) t' = getB x.bals t' + rowsSupply xs t' + _
    by_cases hx : (x.addr == a) = true
    · rw [if_pos hx, updRow_absent t _ (eq_of_beq hx ▸ hn.1)]
      show getB (setB x.bals t _) t' + _ = _
      rw [getB_setB, col]
      by_cases htt : t = t'
      · rw [if_pos htt, if_pos htt, htt, Int.add_right_comm]
      · rw [if_neg htt, if_neg htt, Int.add_zero]
    · rw [Bool.eq_false_iff.2 hx] at hf
      rw [if_neg hx, ih hn.2 hf, Int.add_assoc]

theorem rowsSupply_upsertAdd (rows : List AddrRow) (a : Addr) (t t' : Ticker) (v : Int)
    (hn : (rows.map (·.addr)).Nodup) :
    rowsSupply (upsertAdd rows a t v) t' = rowsSupply rows t' + col t v t' := by
  fun_cases upsertAdd rows a t v
  case case1 r hf => exact rowsSupply_updRow t t' v hn (hf ▸ rfl)
  case case2 =>
    show ((rows ++ [_]).map fun r : AddrRow => getB r.bals t').sum = _
    rw [List.map_append, List.sum_append]
    show rowsSupply rows t' + (getB (setB [] t v) t' + 0) = _
    rw [getB_setB, getB_nil, Int.add_zero, col]

theorem subBal_supply {P : Params} {a : Addr} {t : Ticker} {v : Nat} {s s' : DB} (hok : AddrsOK s)
    (h : subBal P a t v s = .ok true s') :
    AddrsOK s' ∧ ∀ t', s'.supply t' = s.supply t' + col t (-(v : Int)) t' := by
  refine ⟨(subBal_addrsOK P a t v).ok h hok, fun t' => ?_⟩
  rcases subBal_ok h with ⟨hb, _⟩ | ⟨_, hv, hs⟩ | ⟨_, _, _, hrow, hs⟩
  · cases hb
  · subst hs hv
    exact rowsSupply_upsertAdd s.addrs a t t' _ hok.1
  · subst hs
    exact rowsSupply_updRow t t' _ hok.1 hrow

end Pegnet

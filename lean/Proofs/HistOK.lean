import Proofs.Liveness
import Proofs.Chain
/-
  C08 / C17: every history row belongs to a recorded batch — along every chain.

  `HistOK s`: each row of `pn_history_transaction` has a row of `pn_history_txbatch` with its hash.
  It is not preserved by `insertHistTx` alone, so the relation takes `AuthT := fun _ => False` in
  `PrimsOK` and the composites that write both tables are proved directly (`HistComps`): each
  inserts the batch row first (`batch_then`), and the rest runs while that row is there (`RecStep`).
-/
namespace Pegnet

def HistOK (s : DB) : Prop := ∀ r ∈ s.histT, s.isRecorded r.hash = true

def HoldOK (s : DB) : Prop := ∀ r ∈ s.holding, s.isRecorded r.entry.hash = true

def histRel : Rel DB where
  r s s' := (HistOK s → HistOK s') ∧ (HoldOK s → HoldOK s') ∧ ∀ x, s.isRecorded x = true → s'.isRecorded x = true
  refl _ := ⟨id, id, fun _ h => h⟩
  trans _ _ _ h1 h2 := ⟨fun h => h2.1 (h1.1 h), fun h => h2.2.1 (h1.2.1 h), fun x hx => h2.2.2 x (h1.2.2 x hx)⟩

theorem histRel_of_mono {s s' : DB} (hT : s'.histT = s.histT) (hH : s'.holding = s.holding)
    (hm : ∀ x, s.isRecorded x = true → s'.isRecorded x = true) : histRel.r s s' :=
  ⟨fun h r hr => by rw [hT] at hr; exact hm _ (h r hr), fun h r hr => by rw [hH] at hr; exact hm _ (h r hr), hm⟩

theorem histRel_of_keep {s s' : DB} (hT : s'.histT = s.histT) (hB : s'.histB = s.histB) (hH : s'.holding = s.holding) : histRel.r s s' :=
  histRel_of_mono hT hH (fun x hx => by unfold DB.isRecorded at *; rw [hB]; exact hx)

theorem isRecorded_map (l : List HistBatch) (f : HistBatch → HistBatch) (hf : ∀ r, (f r).hash = r.hash) (x : Hash) :
    (l.map f).any (·.hash == x) = l.any (·.hash == x) := by
  induction l with
  | nil => rfl
  | cons r rest ih => simp only [List.map_cons, List.any_cons, hf, ih]

theorem histRel_addBatch (s : DB) (b : HistBatch) : histRel.r s { s with histB := s.histB ++ [b] } :=
  histRel_of_mono rfl rfl fun x hx => by
    unfold DB.isRecorded at *
    rw [List.any_append, hx, Bool.true_or]

theorem histRel_mapT (s : DB) (f : HistTx → HistTx) (hf : ∀ r, (f r).hash = r.hash) :
    histRel.r s { s with histT := s.histT.map f } := by
  refine ⟨fun hs q hq => ?_, id, fun _ => id⟩
  obtain ⟨q0, hq0, rfl⟩ := List.mem_map.1 hq
  rw [hf]
  exact hs q0 hq0

theorem primsOK_hist (P : Params) (h : Nat) : PrimsOK P h histRel (fun _ => True) (fun _ => False) False :=
  primsOK_of_obs (fun s => (s.histT, s.histB, s.holding))
    (fun _ _ e => histRel_of_keep (congrArg Prod.fst e) (congrArg (·.2.1) e) (congrArg (·.2.2) e))
    (insertHistBatch := fun r => Step.guarded fun s => histRel_addBatch s r)
    (insertHistTx := fun _ => False.elim)
    (insertHolding := fun _ _ => False.elim)
    (setExecuted := fun hash v => Step.guarded fun s => histRel_of_mono rfl rfl fun x hx => by
      unfold DB.isRecorded at *
      rw [isRecorded_map s.histB _ (fun r => by split <;> rfl) x]
      exact hx)
    (setConvertedAmount := fun hash i a => Step.guarded fun s => histRel_mapT s _ fun r => by split <;> rfl)
    (setPegConverted := fun hash i a o => Step.guarded fun s => histRel_mapT s _ fun r => by split <;> rfl)

theorem hist_lookup (r : HistLookup) : Step histRel (insertLookup r) :=
  Step.guarded (fun s => by split <;> exact histRel_of_keep rfl rfl rfl)

theorem hist_addBal (P : Params) (a : Addr) (t : Ticker) (v : Nat) : Step histRel (addBal P a t v) :=
  Step.guarded fun _ => histRel_of_keep rfl rfl rfl

/-- from every state in which `x` is recorded the program respects `histRel` (whether it ends well
    or fails: what a failed attempt leaves behind is rolled back with the block, but a swallowed
    failure is not, so both are covered) -/
def RecStep {α} (x : Hash) (m : LM α) : Prop := ∀ s, s.isRecorded x = true → histRel.r s (m s).state

namespace RecStep
variable {α β : Type} {x : Hash}

theorem of_step {m : LM α} (h : Step histRel m) : RecStep x m := fun s _ => h.run s

theorem pure (a : α) : RecStep x (Pure.pure a : LM α) := of_step (.pure a)

theorem bind {m : LM α} {f : α → LM β} (hm : RecStep x m) (hf : ∀ a, RecStep x (f a)) : RecStep x (m >>= f) := by
  intro s hs
  have h1 := hm s hs
  rw [M.bind_run]
  cases hms : m s with
  | fail e s1 => rw [hms] at h1; exact h1
  | ok a s1 =>
    rw [hms] at h1
    exact histRel.trans _ _ _ h1 (hf a s1 (h1.2.2 x hs))

theorem forEach {l : List α} {f : α → LM Unit} (hf : ∀ a, RecStep x (f a)) : RecStep x (M.forEach l f) := by
  induction l with
  | nil => exact pure ()
  | cons a rest ih => exact bind (m := f a) (hf a) (fun _ => ih)

theorem guarded {g : DB → Option Failure} {u : DB → DB} (h : ∀ s, s.isRecorded x = true → histRel.r s (u s)) :
    RecStep x (M.guarded g u) := by
  intro s hs
  unfold M.guarded
  cases g s with
  | some e => exact histRel.refl s
  | none => exact h s hs

theorem insertHistTx (r : HistTx) (hr : r.hash = x) : RecStep x (Pegnet.insertHistTx r) :=
  guarded fun _ hs => ⟨fun hok => List.forall_mem_append.2 ⟨hok, List.forall_mem_singleton.2 (hr ▸ hs)⟩, id, fun _ => id⟩

theorem insertHolding (r : HoldRow) (hr : r.entry.hash = x) : RecStep x (Pegnet.insertHolding r) :=
  guarded fun _ hs => ⟨id, fun hok => List.forall_mem_append.2 ⟨hok, List.forall_mem_singleton.2 (hr ▸ hs)⟩, fun _ => id⟩

theorem txRow (r : HistTx) (l : HistLookup) (hr : r.hash = x) : RecStep x (Pegnet.insertHistTx r >>= fun _ => insertLookup l) :=
  bind (insertHistTx r hr) fun _ => of_step (hist_lookup l)

end RecStep

theorem batch_then {α} (b : HistBatch) {k : LM α} (hk : RecStep b.hash k) : Step histRel (insertHistBatch b >>= fun _ => k) := by
  constructor
  intro s
  rw [M.bind_run]
  cases hr : insertHistBatch b s with
  | fail e s1 =>
    rw [(M.guarded_fail hr).2]
    exact histRel.refl s
  | ok _ s1 =>
    rw [(M.guarded_ok hr).2]
    have hrec : ({ s with histB := s.histB ++ [b] } : DB).isRecorded b.hash = true :=
      List.any_eq_true.2 ⟨b, List.mem_append_right _ (List.mem_singleton.2 rfl), beq_self_eq_true _⟩
    exact histRel.trans _ _ _ (histRel_addBatch s b) (hk _ hrec)

/-- the common body of `applyFct`, `applyGradedOPR` and `applyGradedSPR` -/
theorem coinbase_step (P : Params) (a : Addr) (t : Ticker) (v : Nat) (b : HistBatch) (r : HistTx) (l : HistLookup) (hr : r.hash = b.hash) :
    Step histRel (do addBal P a t v; insertHistBatch b; insertHistTx r; insertLookup l) :=
  .bind (hist_addBal P a t v) fun _ => batch_then b (.txRow r l hr)

theorem hist_applyGradedOPR (P : Params) (oh ts : Int) (ws : List OprW) : Step histRel (applyGradedOPR P oh ts ws) :=
  Step.forEach fun w => by
    split
    · exact Step.pure _
    · exact coinbase_step P _ _ _ _ _ _ rfl

theorem hist_applyGradedSPR (P : Params) (oh ts : Int) (ws : List SprW) : Step histRel (applyGradedSPR P oh ts ws) :=
  Step.forEach fun w => by
    split
    · exact Step.pure _
    · exact coinbase_step P _ _ _ _ _ _ rfl

theorem hist_applyFactoidBlock (P : Params) (h : Nat) (rcd : Addr) (fcts : List FctTx) : Step histRel (applyFactoidBlock P h rcd fcts) :=
  Step.forEach fun f => by
    fun_cases applyFct P h rcd f
    · exact Step.pure _
    · exact coinbase_step P _ _ _ _ _ _ rfl

/-- the developer loop goes on after the lookup row, inside the same `do` block -/
theorem hist_devPayoutLoop (P : Params) (h : Nat) (ts : Int) (l : List (Addr × Nat)) (i j : Nat) :
    Step histRel (devPayoutLoop P h ts i j l) := by
  fun_induction devPayoutLoop P h ts i j l
  case case1 => exact Step.pure _
  case case2 ih =>
    exact .bind (hist_addBal P _ _ _) fun _ => batch_then _ (.bind (.insertHistTx _ rfl) fun _ =>
      .bind (.of_step (hist_lookup _)) fun _ => .of_step ih)

theorem hist_insertZeroingCoinbase (txid : String) (i hh : Nat) (ts : Int) (payout : Nat) (asset : String) (a : Addr) :
    Step histRel (insertZeroingCoinbase txid i hh ts payout asset a) := by
  unfold insertZeroingCoinbase
  apply batch_then
  dsimp only
  split
  · exact .bind (.of_step (.throw _)) fun _ => .txRow _ _ rfl
  · exact .txRow _ _ rfl

theorem rec_historyRows (P : Params) (e : TxEntry) :
    RecStep e.hash (M.forEachIdx e.txs (recordHistoryTx P e.hash)) :=
  .forEach fun p => .bind (.of_step (hist_lookup _)) fun _ => by
    split
    · exact .insertHistTx _ rfl
    · exact .bind (.forEach fun tr => .of_step (hist_lookup _)) fun _ => .insertHistTx _ rfl

theorem hist_recordHistory (P : Params) (h bo : Nat) (e : TxEntry) : Step histRel (recordHistory P h bo e) := by
  rw [recordHistory_eq]
  exact batch_then _ (rec_historyRows P e)

theorem hist_recordAndHold (P : Params) (h : Nat) (keymr : String) (bo : Nat) (e : TxEntry) :
    Step histRel (recordHistory P h bo e >>= fun _ => insertHolding { entry := e, height := h, keymr := keymr }) := by
  rw [recordHistory_eq, M.bind_assoc]
  exact batch_then _ (RecStep.bind (rec_historyRows P e) (fun _ => RecStep.insertHolding _ rfl))

theorem hist_snapshotPayouts (P : Params) (h : Nat) (ts : Int) (rates : TMap) (order : List Addr) :
    Step histRel (snapshotPayouts P h ts rates order) := by
  unfold snapshotPayouts
  dsimp only
  refine .bind (Step.guarded fun _ => histRel_of_keep rfl rfl rfl) fun _ => .bind .get fun db => .bind (.foldM fun l j => ?_) fun staked =>
    .ite (.throw _) (.ite (batch_then _ (.bind (.forEach fun lp => .txRow _ _ rfl) fun _ =>
      .of_step (.forEach fun lp => hist_addBal P _ _ _))) (.pure _))
  split
  · exact .throw _
  · exact .pure _

theorem histComps_hist (P : Params) (h : Nat) : HistComps P h histRel :=
  ⟨hist_insertZeroingCoinbase, hist_snapshotPayouts P h, fun ts => hist_devPayoutLoop P h ts P.devs 0 1, hist_recordHistory P h,
   hist_recordAndHold P h, hist_applyFactoidBlock P h, hist_applyGradedOPR P, hist_applyGradedSPR P⟩

theorem hist_logExec (x : Hash) : Step histRel (logExec x) := Step.guarded fun _ => histRel_of_keep rfl rfl rfl

theorem blockTx_hist (P : Params) (c : DB) (b : Block) (avgs : TMap) : Step histRel (blockTx P c b avgs) :=
  blockTx_stepA c b avgs (primsOK_hist P b.height)
    ⟨hist_logExec, histComps_hist P b.height, fun _ _ _ _ _ _ _ => trivial, fun _ _ _ _ _ => trivial, fun _ => trivial, fun _ => trivial⟩

def HistHoldOK (s : DB) : Prop := HistOK s ∧ HoldOK s

theorem histRel_inv {s s' : DB} (h : histRel.r s s') (hs : HistHoldOK s) : HistHoldOK s' := ⟨h.1 hs.1, h.2.1 hs.2⟩

/-- **Every history row and every held entry belongs to a recorded batch, along every chain.** -/
theorem runBlocks_histHoldOK (P : Params) (n : Node) (chain : List Block) (hn : HistHoldOK n.db) : HistHoldOK (runBlocks P n chain).db :=
  histRel_inv (runBlocks_rel_ok ⟨fun _ _ => histRel_of_keep rfl rfl rfl⟩ chain (fun b _ c avgs => .of_step (blockTx_hist P c b avgs)) n) hn

theorem histOK_fresh (P : Params) : HistHoldOK (freshNode P).db :=
  ⟨fun _ h => absurd h List.not_mem_nil, fun _ h => absurd h List.not_mem_nil⟩

theorem runBlocks_histOK (P : Params) (n : Node) (chain : List Block) (hn : HistHoldOK n.db) : HistOK (runBlocks P n chain).db :=
  (runBlocks_histHoldOK P n chain hn).1

/-- `HistHoldOK` gives what `entry_never_fails` asks for: an entry that is not recorded has neither a history
    row nor a holding row -/
theorem harmless_entry_tot (P : Params) (h : Nat) (keymr : String) (bo : Nat) (e : TxEntry) (he : HarmlessEntry P h e) :
    Tot HistHoldOK (applyTxEntry P h keymr bo e) (fun _ => HistHoldOK) := by
  intro s hs
  have hne : ∀ {y}, s.isRecorded y = true → s.isRecorded e.hash = false → y ≠ e.hash :=
    fun hy hx he => by rw [he, hx] at hy; cases hy
  have hstep : Step histRel (applyTxEntry P h keymr bo e) :=
    applyTxEntry_stepA (primsOK_hist P h) keymr bo e (fun _ _ _ => trivial) hist_logExec (hist_recordHistory P h) (hist_recordAndHold P h)
  obtain ⟨s', h'⟩ := entry_never_fails P h keymr bo e s he (fun hx r hr => hne (hs.1 r hr) hx) (fun hx _ r hr => hne (hs.2 r hr) hx)
  exact ⟨(), s', h', histRel_inv (hstep.ok h') hs⟩

/-- **No entry block of the transaction chain made of harmless entries can fail**, on any ledger
    whose history and holding tables are consistent (every reachable one: `runBlocks_histHoldOK`). -/
theorem harmless_tx_block_never_fails (P : Params) (h : Nat) (keymr : String) (es : List TxEntry) (s : DB)
    (hs : HistHoldOK s) (he : ∀ e ∈ es, HarmlessEntry P h e) :
    ∃ s', applyTransactionBlock P h keymr es s = .ok () s' ∧ HistHoldOK s' :=
  have ⟨_, s', h', hs'⟩ :=
    Tot.forEachIdx (fun _ => HistHoldOK) (fun k e hm => harmless_entry_tot P h keymr k e (he e hm)) s hs
  ⟨s', h', hs'⟩

end Pegnet

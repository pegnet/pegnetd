import Proofs.BatchLemmas
import Proofs.Chain
/-
  C06, chain level: an entry is executed at most once.

  `DB.execLog` is a history variable: `applyTransactionBatch` appends the entry hash every time it
  goes on to record a batch. The invariant "no hash occurs twice in the log, and every logged hash
  bears a replay mark" is preserved by every successful block — because both callers of
  `applyTransactionBatch` check `IsReplayTransaction` right before, the first recorded transaction
  of the batch writes the relation row that sets the mark, and marks are never removed.
-/
namespace Pegnet

def ExecOnce (s : DB) : Prop := s.execLog.Nodup ∧ ∀ x ∈ s.execLog, s.isReplay x = true

def execRel : Rel DB := invRel ExecOnce

/-- marks only grow and the log is kept: what every primitive and every component outside the two
    callers of `applyTransactionBatch` does -/
def keepLogGrowRels : Rel DB := (keepRel (·.execLog)).and relsGrow

theorem execOnce_of_keep {s s' : DB} (h : keepLogGrowRels.r s s') (hi : ExecOnce s) : ExecOnce s' := by
  have hl : s'.execLog = s.execLog := h.1
  refine ⟨by rw [hl]; exact hi.1, fun x hx => ?_⟩
  rw [hl] at hx
  exact h.2 x (hi.2 x hx)

theorem keepLogGrowRels_keep (s s' : DB) (e1 : s'.execLog = s.execLog) (e2 : s'.rels = s.rels) : keepLogGrowRels.r s s' :=
  ⟨e1, relsGrow_keep s s' e2⟩

theorem primsOK_keepLogGrowRels (P : Params) (h : Nat) : PrimsOK P h keepLogGrowRels :=
  primsOK_of_obs (fun s => (s.execLog, s.rels))
    (fun s s' e => keepLogGrowRels_keep s s' (congrArg Prod.fst e) (congrArg Prod.snd e))
    (insertRelation := fun hash a i t c =>
      (Step.guarded fun s => by split <;> rfl).and ((primsOK_relsGrow P h).insertRelation hash a i t c))

theorem stepOk_of_keepLogGrowRels {α} {m : LM α} (h : Step keepLogGrowRels m) : StepOk execRel m :=
  ⟨fun _ _ _ e hi => execOnce_of_keep (h.ok e) hi⟩

section
variable {P : Params} {h : Nat}

theorem ExecOnce.not_logged {s : DB} {x : Hash} (hi : ExecOnce s) (hnr : ¬ s.isReplay x = true) : x ∉ s.execLog :=
  fun hx => hnr (hi.2 x hx)

theorem ExecOnce.logged {s s' : DB} {x : Hash} (hi : ExecOnce s) (hx : x ∉ s.execLog)
    (hk : keepLogGrowRels.r { s with execLog := s.execLog ++ [x] } s') (hm : s'.isReplay x = true) : ExecOnce s' := by
  obtain ⟨hl, hg⟩ := hk
  have hl' : s'.execLog = s.execLog ++ [x] := hl
  refine ⟨?_, fun y hy => ?_⟩
  · rw [hl']
    exact hi.1.concat hx
  · rw [hl'] at hy
    rcases List.mem_append.1 hy with hy | hy
    · exact hg y (hi.2 y hy)
    · rw [List.mem_singleton.1 hy]; exact hm

theorem applyBatch_execOnce {α} {e : TxEntry} {rates avgs : Option TMap} {k : Verdict → LM α} {s s' : DB} {a : α}
    (hk : ∀ v, Step keepLogGrowRels (k v)) (hne : e.txs ≠ []) (hx : e.hash ∉ s.execLog) (hi : ExecOnce s)
    (hr : (applyBatch P h e rates avgs >>= k) s = .ok a s') : ExecOnce s' := by
  obtain ⟨v, s1, h1, h2⟩ := M.bind_ok hr
  refine execOnce_of_keep ((hk v).ok h2) ?_
  obtain ⟨_, _, ⟨_, hrec⟩ | ⟨_, rfl⟩⟩ := applyBatch_ok h1
  · obtain ⟨t0, rest, htx⟩ := List.exists_cons_of_ne_nil hne
    rw [htx] at hrec
    exact hi.logged hx ((recordBatch_step (primsOK_keepLogGrowRels P h) e.hash rates avgs (t0 :: rest)).ok hrec) (recordBatch_marks hrec)
  · exact hi

theorem applyTxEntry_execOnce (keymr : String) (bo : Nat) (e : TxEntry) :
    StepOk execRel (applyTxEntry P h keymr bo e) := by
  have ok := primsOK_keepLogGrowRels P h
  -- recording the arrival keeps the log, so the entry is still not in it
  have hrec := (histComps_of_prims ok (fun _ => trivial) trivial).hist bo e
  constructor
  intro s a s' hr hi
  rw [applyTxEntry_run] at hr
  by_cases hc : e.arrives P h s = true
  · rw [if_pos hc] at hr
    obtain ⟨hval, hnr, _⟩ := TxEntry.arrives_true hc
    obtain ⟨_, s1, h1, h2⟩ := M.bind_ok hr
    have hk := hrec.ok h1
    by_cases hconv : e.hasConversions P = true
    · rw [if_pos hconv] at h2
      exact execOnce_of_keep ((ok.insertHolding e keymr trivial).ok h2) (execOnce_of_keep hk hi)
    · rw [if_neg hconv] at h2
      have hl : s1.execLog = s.execLog := hk.1
      refine applyBatch_execOnce (fun v => ?_) (validAt_txs_ne_nil hval)
        (hl ▸ hi.not_logged (Bool.eq_false_iff.1 hnr)) (execOnce_of_keep hk hi) h2
      fun_cases settleTx e.hash v
      · exact ok.setExecuted ..
      · exact .throw _
      · exact .pure _
  · rw [if_neg hc] at hr
    cases hr
    exact hi

theorem applyHeld_execOnce (rates avgs : TMap) (e : TxEntry) : StepOk execRel (applyHeld P h rates avgs e) := by
  have ok := primsOK_keepLogGrowRels P h
  constructor
  intro s j s' hr hi
  rw [applyHeld_run] at hr
  by_cases hinv : e.heldInvalid P h = true
  · rw [if_pos hinv] at hr
    exact execOnce_of_keep ((Step.bind (ok.setExecuted ..) fun _ => Step.pure _).ok hr) hi
  · rw [if_neg hinv] at hr
    by_cases hrp : s.isReplay e.hash = true
    · rw [if_pos hrp] at hr
      cases hr
      exact hi
    · rw [if_neg hrp] at hr
      refine applyBatch_execOnce (fun v => ?_) (validAt_txs_ne_nil (TxEntry.heldInvalid_false hinv)) (hi.not_logged hrp) hi hr
      fun_cases settleHeld P h e v
      · exact .bind (ok.setExecuted ..) fun _ => .pure _
      · exact .pure _

end

/-- a block that commits preserves the invariant: in the skeleton of the block the two callers of
    `applyTransactionBatch` are treated above, everything else keeps the log and only adds marks -/
theorem blockTx_execOnce {P : Params} (c : DB) (b : Block) (avgs : TMap) : StepOk execRel (blockTx P c b avgs) :=
  have ok := (primsOK_keepLogGrowRels P b.height).toJ stepOk_of_keepLogGrowRels
  have hk := (primsOK_keepLogGrowRels P b.height).toJ id
  (blockTx_built c b avgs ok (compsB_of_prims ok (fun _ => trivial) trivial)
    (fun rates row _ => .leaf (applyHeld_execOnce rates avgs row.entry))
    (fun _ _ i e _ => .leaf (applyTxEntry_execOnce b.txKeymr i e))
    (fun v => stepOk_of_keepLogGrowRels ((primsOK_keepLogGrowRels P b.height).markSynced v))
    (preAdjust_built c b ok fun _ => trivial)
    -- the zeroing swallows errors: it is taken whole, as a step that respects the relation on every run
    (.leaf (stepOk_of_keepLogGrowRels ((burnZeroing_built c b hk (compsB_of_prims hk (fun _ => trivial) trivial) (fun hb => hb.step.swallow)
      fun _ => trivial).step)))).stepOk

theorem execOnce_congr {s s' : DB} (e1 : s'.execLog = s.execLog) (e2 : s'.rels = s.rels) (hi : ExecOnce s) : ExecOnce s' :=
  execOnce_of_keep (keepLogGrowRels_keep s s' e1 e2) hi

theorem execRel_flagBlind : FlagBlind execRel := ⟨fun _ _ => execOnce_congr rfl rfl⟩

theorem runBlocks_execOnce (P : Params) (n : Node) (chain : List Block) (hi : ExecOnce n.db) :
    ExecOnce (runBlocks P n chain).db :=
  runBlocks_rel_ok execRel_flagBlind chain (fun b _ c avgs => blockTx_execOnce c b avgs) n hi

theorem execOnce_fresh (P : Params) : ExecOnce (freshNode P).db :=
  ⟨List.nodup_nil, fun _ hx => by cases hx⟩

end Pegnet

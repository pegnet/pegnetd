import Proofs.Hoare
import Proofs.ListFold
/-
  The balance table (`pn_addresses`) under its two writes, `upsertAdd` and `updRow`: the invariant
  `AddrsOK` (one row per address, no negative balance), what `SubFromBalance` does in each of its
  outcomes (`subBal_ok`, `subBal_fail`), and reading one balance after a write.  Nothing here looks
  beyond the table: that every block keeps `AddrsOK` is `primsOK_addrsOK` (Proofs/Relations) and
  `runBlocks_addrsOK` (Proofs/Chain).
-/
namespace Pegnet

theorem getB_nil (i : Nat) : getB [] i = 0 := rfl

theorem getB_setB (l : List Int) (i j : Nat) (v : Int) :
    getB (setB l i v) j = if i = j then v else getB l j := by
  fun_induction setB l i v generalizing j
  case case1 => cases j <;> rfl
  case case2 ih =>
    cases j with
    | zero => rfl
    | succ j =>
      simp only [Nat.succ_inj]
      exact ih j
  case case3 => cases j <;> rfl
  case case4 ih =>
    cases j with
    | zero => rfl
    | succ j =>
      simp only [Nat.succ_inj]
      exact ih j

def AddrsOK (db : DB) : Prop :=
  (db.addrs.map (·.addr)).Nodup ∧ ∀ r ∈ db.addrs, ∀ t, 0 ≤ getB r.bals t

theorem findRow_none_not_mem {rows : List AddrRow} {a : Addr} (h : findRow rows a = none) :
    a ∉ rows.map (·.addr) := by
  intro hm
  obtain ⟨r, hr, hra⟩ := List.mem_map.1 hm
  have := List.find?_eq_none.1 h r hr
  simp [hra] at this

theorem findRow_unique {rows : List AddrRow} {a : Addr} {r : AddrRow}
    (hn : (rows.map (·.addr)).Nodup) (hr : r ∈ rows) (ha : r.addr = a) : findRow rows a = some r := by
  unfold findRow
  fun_induction List.find? (·.addr == a) rows
  case case1 => cases hr
  case case2 x xs hx =>
    rcases List.mem_cons.1 hr with rfl | e
    · rfl
    · -- a second row of the address further down would repeat the head's address
      exact absurd (List.mem_map.2 ⟨r, e, ha.trans (eq_of_beq hx).symm⟩) (List.nodup_cons.1 hn).1
  case case3 x xs hx ih =>
    rcases List.mem_cons.1 hr with rfl | e
    · exact absurd (beq_iff_eq.2 ha) (ne_true_of_eq_false hx)
    · exact ih (List.nodup_cons.1 hn).2 e

theorem updRow_addrs (rows : List AddrRow) (a : Addr) (t : Ticker) (f : Int → Int) :
    (updRow rows a t f).map (·.addr) = rows.map (·.addr) := by
  unfold updRow
  rw [List.map_map]
  apply List.map_congr_left
  intro r _
  simp only [Function.comp]
  split <;> rfl

theorem updRow_absent {rows : List AddrRow} {a : Addr} (t : Ticker) (f : Int → Int) (h : a ∉ rows.map (·.addr)) :
    updRow rows a t f = rows := by
  refine (List.map_congr_left fun r hr => ?_).trans (List.map_id _)
  exact if_neg fun e => h (List.mem_map.2 ⟨r, hr, eq_of_beq e⟩)

theorem addrsOK_updRow {db : DB} {a : Addr} {t : Ticker} {f : Int → Int} (h : AddrsOK db)
    (hf : ∀ r ∈ db.addrs, r.addr = a → 0 ≤ f (getB r.bals t)) :
    AddrsOK { db with addrs := updRow db.addrs a t f } := by
  refine ⟨by rw [updRow_addrs]; exact h.1, fun r hr t' => ?_⟩
  obtain ⟨q, hq, rfl⟩ := List.mem_map.1 hr
  by_cases hqa : (q.addr == a) = true
  · rw [if_pos hqa]
    show 0 ≤ getB (setB q.bals t _) t'
    rw [getB_setB]
    by_cases ht : t = t'
    · rw [if_pos ht]
      exact hf q hq (eq_of_beq hqa)
    · rw [if_neg ht]
      exact h.2 q hq t'
  · rw [if_neg hqa]
    exact h.2 q hq t'

theorem addrsOK_upsertAdd (db : DB) (a : Addr) (t : Ticker) (v : Nat) (h : AddrsOK db) :
    AddrsOK { db with addrs := upsertAdd db.addrs a t v } := by
  fun_cases upsertAdd db.addrs a t v
  case case1 => exact addrsOK_updRow h fun r hr _ => Int.add_nonneg (h.2 r hr t) (Int.natCast_nonneg v)
  case case2 hf =>
    refine ⟨?_, fun r hr t' => ?_⟩
    · rw [List.map_append]
      exact h.1.concat (findRow_none_not_mem hf)
    · rcases List.mem_append.1 hr with hr | hr
      · exact h.2 r hr t'
      · rw [List.mem_singleton.1 hr]
        show 0 ≤ getB (setB [] t v) t'
        rw [getB_setB, getB_nil]
        split
        · exact Int.natCast_nonneg v
        · exact Int.le_refl 0

theorem addrsOK_debit (db : DB) (a : Addr) (t : Ticker) (v : Nat) (h : AddrsOK db)
    (hb : ¬ db.bal a t < (v : Int)) :
    AddrsOK { db with addrs := updRow db.addrs a t (· - v) } :=
  addrsOK_updRow h fun r hr ha => by
    -- the debited cell: its old value is `db.bal a t`
    have : db.bal a t = getB r.bals t := by unfold DB.bal; rw [findRow_unique h.1 hr ha]
    exact Int.sub_nonneg.2 (this ▸ Int.not_lt.1 hb)

theorem row_of_pos_bal {s : DB} {a : Addr} {t : Ticker} (h : 0 < s.bal a t) : (findRow s.addrs a).isSome = true := by
  revert h
  fun_cases DB.bal s a t
  case case1 r hr => exact fun _ => hr ▸ rfl
  case case2 => exact fun h => absurd h (Int.lt_irrefl 0)

theorem subBal_ok {P : Params} {a : Addr} {t : Ticker} {v : Nat} {s s' : DB} {b : Bool}
    (h : subBal P a t v s = .ok b s') :
    (b = false ∧ s' = s ∧ v ≠ 0 ∧ s.bal a t < (v : Int)) ∨
    (b = true ∧ v = 0 ∧ s' = { s with addrs := upsertAdd s.addrs a t (0 : Nat) }) ∨
    (b = true ∧ v ≠ 0 ∧ (v : Int) ≤ s.bal a t ∧ (findRow s.addrs a).isSome = true ∧
      s' = { s with addrs := updRow s.addrs a t (· - (v : Int)) }) := by
  revert h
  fun_cases subBal P a t v
  case case1 hv =>
    intro h
    obtain ⟨_, s1, h1, h2⟩ := M.bind_ok h
    obtain ⟨hb, hs⟩ := M.pure_ok h2
    exact .inr (.inl ⟨hb, hv, hs.trans (M.guarded_ok h1).2⟩)
  case case2 => nofun
  case case3 hv _ =>
    rw [M.get_bind]
    split
    next hb =>
      intro h
      obtain ⟨hb', hs⟩ := M.pure_ok h
      exact .inl ⟨hb', hs, hv, hb⟩
    next hb =>
      intro h
      obtain ⟨_, s1, h1, h2⟩ := M.bind_ok h
      obtain ⟨hb', hs⟩ := M.pure_ok h2
      -- a row exists because the balance is positive
      have hrow := row_of_pos_bal (Int.lt_of_lt_of_le (Int.natCast_pos.2 (Nat.pos_of_ne_zero hv)) (Int.not_lt.1 hb))
      exact .inr (.inr ⟨hb', hv, Int.not_lt.1 hb, hrow, hs.trans (M.guarded_ok h1).2⟩)

theorem subBal_fail {P : Params} {a : Addr} {t : Ticker} {v : Nat} {s s' : DB} {e : Failure}
    (h : subBal P a t v s = .fail e s') : s' = s ∧ ∃ w, e = .sqlError w := by
  revert h
  fun_cases subBal P a t v
  case case1 =>
    intro h
    rcases M.bind_fail h with h1 | ⟨_, _, _, h2⟩
    · obtain ⟨hg, hs⟩ := M.guarded_fail h1
      refine ⟨hs, ?_⟩
      split at hg
      · exact ⟨_, (Option.some.inj hg).symm⟩
      · split at hg
        · exact ⟨_, (Option.some.inj hg).symm⟩
        · cases hg
    · cases h2
  case case2 =>
    rintro ⟨⟩
    exact ⟨rfl, _, rfl⟩
  case case3 =>
    rw [M.get_bind]
    split
    · nofun
    · intro h
      rcases M.bind_fail h with h1 | ⟨_, _, _, h2⟩
      · obtain ⟨hg, hs⟩ := M.guarded_fail h1
        refine ⟨hs, ?_⟩
        split at hg
        · exact ⟨_, (Option.some.inj hg).symm⟩
        · cases hg
      · cases h2

theorem subBal_addrsOK (P : Params) (a : Addr) (t : Ticker) (v : Nat) :
    Step (invRel AddrsOK) (subBal P a t v) := by
  constructor
  intro s hs
  cases hr : subBal P a t v s with
  | fail e s' =>
    rw [(subBal_fail hr).1]
    exact hs
  | ok b s' =>
    rcases subBal_ok hr with ⟨_, e, _, _⟩ | ⟨_, _, e⟩ | ⟨_, _, hle, _, e⟩
    · rw [e]
      exact hs
    · rw [e]
      exact addrsOK_upsertAdd s a t 0 hs
    · rw [e]
      exact addrsOK_debit s a t v hs (Int.not_lt.2 hle)

theorem bal_nonneg_of_addrsOK {db : DB} (h : AddrsOK db) (a : Addr) (t : Ticker) : 0 ≤ db.bal a t := by
  fun_cases DB.bal db a t
  case case1 r hr => exact h.2 r (List.mem_of_find?_eq_some hr) t
  case case2 => exact Int.le_refl 0

theorem findRow_updRow (rows : List AddrRow) (a a' : Addr) (t : Ticker) (f : Int → Int) :
    findRow (updRow rows a t f) a' =
      (findRow rows a').map (fun r => if r.addr == a then { r with bals := setB r.bals t (f (getB r.bals t)) } else r) := by
  unfold findRow updRow
  rw [List.find?_map]
  have hcomp : ((fun x : AddrRow => x.addr == a') ∘
      (fun r : AddrRow => if r.addr == a then { r with bals := setB r.bals t (f (getB r.bals t)) } else r)) =
      (fun x : AddrRow => x.addr == a') := by
    funext r
    simp only [Function.comp]
    split <;> rfl
  rw [hcomp]

theorem findRow_addr {rows : List AddrRow} {a : Addr} {r : AddrRow} (h : findRow rows a = some r) : r.addr = a := by
  unfold findRow at h
  have := List.find?_some h
  simpa using this

theorem bal_updRow (db : DB) (a a' : Addr) (t t' : Ticker) (f : Int → Int) :
    ({ db with addrs := updRow db.addrs a t f } : DB).bal a' t' =
      if a' = a ∧ t' = t ∧ (findRow db.addrs a').isSome then f (db.bal a' t') else db.bal a' t' := by
  unfold DB.bal
  simp only [findRow_updRow]
  cases hf : findRow db.addrs a' with
  | none => simp
  | some r =>
    have hra := findRow_addr hf
    simp only [Option.map_some, Option.isSome_some, and_true]
    by_cases haa : a' = a
    · subst haa
      simp only [hra, beq_self_eq_true, if_true, true_and]
      rw [getB_setB]
      by_cases htt : t = t'
      · subst htt; simp
      · have : ¬ t' = t := fun h => htt h.symm
        simp [htt, this]
    · have : (r.addr == a) = false := by rw [hra]; simpa using haa
      simp [this, haa]

theorem findRow_append_singleton (rows : List AddrRow) (x : AddrRow) (a' : Addr) :
    findRow (rows ++ [x]) a' = (findRow rows a').or (if x.addr == a' then some x else none) := by
  unfold findRow
  rw [List.find?_append, List.find?_singleton]

end Pegnet

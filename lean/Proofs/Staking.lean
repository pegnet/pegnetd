import Proofs.Moves
/-
  C14: what a snapshot block credits, for every address and asset.
-/
namespace Pegnet

/-- the valuation of every joined row (none when some conversion fails: the block fails) -/
def stakesOf (P : Params) (h : Nat) (rates : TMap) : List (Addr × List Int × List Int) → Option (List (Addr × Nat))
  | [] => some []
  | j :: rest =>
    match stakeOf P h rates j.2.1 j.2.2, stakesOf P h rates rest with
    | some s, some l => some ((j.1, s) :: l)
    | _, _ => none

theorem stakeFold_ok (P : Params) (h : Nat) (rates : TMap) (joined : List (Addr × List Int × List Int)) :
    ∀ (acc : List (Addr × Nat)) (s s' : DB) (r : List (Addr × Nat)),
      M.foldM (fun (l : List (Addr × Nat)) j =>
        match stakeOf P h rates j.2.1 j.2.2 with
        | none => (M.throw (.uncaught "staking valuation: convert failed") : LM (List (Addr × Nat)))
        | some st => pure (l ++ [(j.1, st)])) acc joined s = .ok r s' →
      s' = s ∧ ∃ l, stakesOf P h rates joined = some l ∧ r = acc ++ l := by
  intro acc
  fun_induction M.foldM (σ := DB) _ acc joined
  case case1 acc =>
    rintro s s' r ⟨⟩
    exact ⟨rfl, [], rfl, (List.append_nil _).symm⟩
  case case2 acc j rest ih =>
    intro s s' r hr
    obtain ⟨b, s1, h1, h2⟩ := M.bind_ok hr
    cases hst : stakeOf P h rates j.2.1 j.2.2 with
    | none => rw [hst] at h1; cases h1
    | some st =>
      rw [hst] at h1
      cases h1
      obtain ⟨hs', l, hl, hr'⟩ := ih _ _ _ _ h2
      refine ⟨hs', (j.1, st) :: l, ?_, ?_⟩
      · simp only [stakesOf, hst, hl]
      · rw [hr', List.append_assoc]
        rfl

/-- the tail of `snapshotPayouts`, after the rotation, the valuation and the ordering -/
def payStakes (P : Params) (h : Nat) (ts : Int) (list : List (Addr × Nat)) : LM Unit := do
  if !list.isEmpty then
    let txid := txidOfHeight h
    let reqs := list.zipIdx.map fun p => (({ idx := p.2, hash := txid } : TxKey), p.1.2)
    let pays := payouts (P.perBlockHolders * P.snapshotRate) reqs
    insertHistBatch { hash := txid, height := h, blockorder := 0, ts := ts, executed := h }
    M.forEach (list.zip pays) fun lp => do
      insertHistTx { hash := txid, txIndex := lp.2.1.idx, action := 3, fromAddr := lp.1.1, fromAsset := "", fromAmount := 0,
                     toAsset := "PEG", toAmount := lp.2.2, outputs := "" }
      insertLookup { hash := txid, txIndex := lp.2.1.idx, addr := lp.1.1 }
    M.forEach (list.zip pays) fun lp => addBal P lp.1.1 tPEG lp.2.2

theorem snapshotPayouts_ok {P : Params} {h : Nat} {ts : Int} {rates : TMap} {order : List Addr} {s s' : DB}
    (hr : snapshotPayouts P h ts rates order s = .ok () s') :
    ∃ staked, stakesOf P h rates (joinSnapshots s.addrs s.snapCur) = some staked ∧
      payStakes P h ts (orderStakes order (staked.filter (fun p => decide (p.2 > 0))))
        { s with snapPast := s.snapCur, snapCur := s.addrs } = .ok () s' := by
  unfold snapshotPayouts at hr
  obtain ⟨_, s1, h1, hr⟩ := M.bind_ok hr
  obtain ⟨_, hs1⟩ := M.guarded_ok h1
  subst hs1
  obtain ⟨db, s2, h2, hr⟩ := M.bind_ok hr
  cases h2
  obtain ⟨staked, s3, h3, hr⟩ := M.bind_ok hr
  obtain ⟨hs3, l, hl, hst⟩ := stakeFold_ok P h rates _ [] _ _ _ h3
  subst hs3
  rw [List.nil_append] at hst
  subst hst
  refine ⟨staked, hl, ?_⟩
  by_cases hbig : (staked.any fun p => decide (p.2 > maxUint64)) = true
  · rw [if_pos hbig] at hr
    obtain ⟨_, _, h4, _⟩ := M.bind_ok hr
    cases h4
  · rw [if_neg hbig] at hr
    exact hr

theorem payStakes_moves (P : Params) (h : Nat) (ts : Int) (list : List (Addr × Nat)) :
    Moves (payStakes P h ts list) (fun i =>
      ((list.zip (payouts (P.perBlockHolders * P.snapshotRate)
          (list.zipIdx.map fun p => (({ idx := p.2, hash := txidOfHeight h } : TxKey), p.1.2)))).map
        fun lp => cell lp.1.1 tPEG (lp.2.2 : Nat) i).sum) := by
  fun_cases payStakes P h ts list
  case case1 =>
    exact (balLedger.insertHistBatch _).keep_then fun _ =>
      ((Adds.forEach (fun (lp : (Addr × Nat) × (TxKey × Nat)) =>
        (balLedger.insertHistTx _).then_keep fun _ => balLedger.insertLookup _) _).congr fun _ => List.sum_map_zero _).keep_then fun _ =>
      Adds.forEach (fun (lp : (Addr × Nat) × (TxKey × Nat)) => balLedger.addBal P lp.1.1 tPEG lp.2.2) _
  case case2 hl =>
    obtain rfl : list = [] := by simpa using hl
    exact Adds.pure ()

/-- what the staking payout credits to `a`: the `Payouts` shares of the stakers whose address is `a` -/
def stakingCredit (a : Addr) (lp : List ((Addr × Nat) × (TxKey × Nat))) : Int :=
  (lp.map (fun p => if a = p.1.1 then ((p.2.2 : Nat) : Int) else 0)).sum

end Pegnet

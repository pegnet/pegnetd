import Pegnet.Sync
/-
  A small program logic for the model monad: `Step R m` says every run of `m` (successful or
  failed — a failed run's state matters where the Go code swallows the error) relates the start
  state to the end state by the reflexive-transitive relation `R`.
  Invariants are the special case `R s s' := I s → I s'`.
  `StepOk R m` asks this of the successful runs only: what a block that fails leaves behind is rolled back.
-/
namespace Pegnet

def Res.state {σ α} : Res σ α → σ
  | .ok _ s => s
  | .fail _ s => s

structure Rel (σ : Type) where
  r : σ → σ → Prop
  refl : ∀ s, r s s
  trans : ∀ a b c, r a b → r b c → r a c

def invRel {σ} (I : σ → Prop) : Rel σ where
  r s s' := I s → I s'
  refl _ h := h
  trans _ _ _ h1 h2 h := h2 (h1 h)

def keepRel {σ β} (f : σ → β) : Rel σ where
  r s s' := f s' = f s
  refl _ := rfl
  trans _ _ _ h1 h2 := h2.trans h1

/-- for append-only tables: `le` is a preorder given explicitly -/
def monoRel {σ β} (f : σ → β) (le : β → β → Prop) (hr : ∀ a, le a a) (ht : ∀ a b c, le a b → le b c → le a c) : Rel σ where
  r s s' := le (f s) (f s')
  refl s := hr (f s)
  trans _ _ _ h1 h2 := ht _ _ _ h1 h2

def Rel.and {σ} (R₁ R₂ : Rel σ) : Rel σ where
  r s s' := R₁.r s s' ∧ R₂.r s s'
  refl s := ⟨R₁.refl s, R₂.refl s⟩
  trans a b c h1 h2 := ⟨R₁.trans a b c h1.1 h2.1, R₂.trans a b c h1.2 h2.2⟩

structure Step {σ α} (R : Rel σ) (m : M σ α) : Prop where
  run : ∀ s, R.r s (m s).state

theorem Step.ok {σ α} {R : Rel σ} {m : M σ α} (h : Step R m) {s s' : σ} {a : α} (e : m s = .ok a s') :
    R.r s s' := by
  have := h.run s; rw [e] at this; exact this

namespace Step
variable {σ α β : Type} {R : Rel σ}

theorem pure (a : α) : Step R (Pure.pure a : M σ α) := ⟨fun s => R.refl s⟩
theorem throw (e : Failure) : Step R (M.throw e : M σ α) := ⟨fun s => R.refl s⟩
theorem get : Step R (M.get : M σ σ) := ⟨fun s => R.refl s⟩

theorem modify {f : σ → σ} (h : ∀ s, R.r s (f s)) : Step R (M.modify f) := ⟨fun s => h s⟩

theorem bind {m : M σ α} {f : α → M σ β} (hm : Step R m) (hf : ∀ a, Step R (f a)) :
    Step R (m >>= f) := by
  constructor
  intro s
  have h1 := hm.run s
  rw [M.bind_run]
  cases hms : m s with
  | ok a s' =>
    rw [hms] at h1
    exact R.trans _ _ _ h1 ((hf a).run s')
  | fail e s' =>
    rw [hms] at h1
    exact h1

theorem seq {m : M σ α} {k : M σ β} (hm : Step R m) (hk : Step R k) :
    Step R (m >>= fun _ => k) := bind hm (fun _ => hk)

theorem swallow {m : M σ Unit} (hm : Step R m) : Step R (M.swallow m) := by
  constructor
  intro s
  have h1 := hm.run s
  unfold M.swallow
  cases hms : m s with
  | ok a s' => rw [hms] at h1; exact h1
  | fail e s' => rw [hms] at h1; exact h1

theorem forEach {l : List α} {f : α → M σ Unit} (hf : ∀ a, Step R (f a)) : Step R (M.forEach l f) := by
  induction l with
  | nil => exact pure ()
  | cons x xs ih => exact bind (hf x) (fun _ => ih)

theorem forEachIdx {l : List α} {f : Nat → α → M σ Unit} (hf : ∀ i a, Step R (f i a)) :
    Step R (M.forEachIdx l f) := forEach (fun p => hf p.2 p.1)

theorem foldM {f : β → α → M σ β} {l : List α} {b : β} (hf : ∀ b a, Step R (f b a)) :
    Step R (M.foldM f b l) := by
  induction l generalizing b with
  | nil => exact pure b
  | cons x xs ih => exact bind (hf b x) (fun b' => ih)

theorem ite {c : Prop} [Decidable c] {a b : M σ α} (ha : Step R a) (hb : Step R b) :
    Step R (if c then a else b) := by
  split <;> assumption

theorem of_fun {m : M σ α} (h : ∀ s, R.r s (m s).state) : Step R m := ⟨h⟩

end Step

theorem Step.guardedOn {σ} {R : Rel σ} {g : σ → Option Failure} {u : σ → σ}
    (h : ∀ s, g s = none → R.r s (u s)) : Step R (M.guarded g u) := by
  constructor
  intro s
  unfold M.guarded
  cases hg : g s with
  | some e => exact R.refl s
  | none => exact h s hg

theorem Step.guarded {σ} {R : Rel σ} {g : σ → Option Failure} {u : σ → σ}
    (h : ∀ s, R.r s (u s)) : Step R (M.guarded g u) :=
  Step.guardedOn fun s _ => h s

theorem Step.mono {σ α} {R R' : Rel σ} {m : M σ α} (hR : ∀ s s', R.r s s' → R'.r s s') (h : Step R m) : Step R' m :=
  ⟨fun s => hR _ _ (h.run s)⟩

theorem Step.keepRel_comp {σ α β γ} {f : σ → β} (g : β → γ) {m : M σ α} (h : Step (keepRel f) m) :
    Step (keepRel (g ∘ f)) m :=
  h.mono fun _ _ e => congrArg g e

theorem Step.and {σ α} {R₁ R₂ : Rel σ} {m : M σ α} (h1 : Step R₁ m) (h2 : Step R₂ m) : Step (R₁.and R₂) m :=
  ⟨fun s => ⟨h1.run s, h2.run s⟩⟩

/-- meant for registering `Step` facts for instance search; no instance is declared and nothing uses it -/
class StepPrim {σ α} (R : Rel σ) (m : M σ α) : Prop where
  step : Step R m

structure StepOk {α} (R : Rel DB) (m : LM α) : Prop where
  ok : ∀ s a s', m s = .ok a s' → R.r s s'

namespace StepOk
variable {α β : Type} {R : Rel DB}

theorem of_step {m : LM α} (h : Step R m) : StepOk R m := ⟨fun _ _ _ e => h.ok e⟩

theorem bind {m : LM α} {f : α → LM β} (hm : StepOk R m) (hf : ∀ a, StepOk R (f a)) : StepOk R (m >>= f) := by
  constructor
  intro s b s' h
  obtain ⟨a, s1, h1, h2⟩ := M.bind_ok h
  exact R.trans _ _ _ (hm.ok s a s1 h1) ((hf a).ok s1 b s' h2)

theorem pure (a : α) : StepOk R (Pure.pure a : LM α) := of_step (Step.pure a)
theorem pure' (a : α) : StepOk R (M.pure a : LM α) := of_step (Step.pure a)
theorem get : StepOk R (M.get : LM DB) := of_step Step.get
theorem throw (e : Failure) : StepOk R (M.throw e : LM α) := of_step (Step.throw e)

end StepOk

/-!
  `Ensures Q m`: every successful run of `m` from `s` to `s'` establishes `Q s s'`. `StepOk R m` is the case
  `Q := R.r`; in general `Q` need be neither reflexive nor transitive ("a status was written"), so `>>=` needs
  help: `Q` is established by one part of the program and survives the rest (`Widens`). -/

def Ensures {α} (Q : DB → DB → Prop) (m : LM α) : Prop := ∀ s a s', m s = .ok a s' → Q s s'

/-- `Q s s'` survives when the interval `[s, s']` is widened on either side by steps that respect `R` -/
structure Widens (R : Rel DB) (Q : DB → DB → Prop) : Prop where
  left : ∀ s0 s s', R.r s0 s → Q s s' → Q s0 s'
  right : ∀ s s' s'', Q s s' → R.r s' s'' → Q s s''

theorem Widens.all {ι} {R : Rel DB} {C : ι → DB → DB → Prop} (p : ι → Prop) (w : ∀ i, Widens R (C i)) :
    Widens R (fun s s' => ∀ i, p i → C i s s') :=
  ⟨fun _ _ _ h0 hc i hi => (w i).left _ _ _ h0 (hc i hi), fun _ _ _ hc h2 i hi => (w i).right _ _ _ (hc i hi) h2⟩

namespace Ensures
variable {α β : Type} {R : Rel DB} {Q : DB → DB → Prop}

theorem after (w : Widens R Q) {m : LM α} {f : α → LM β} (hm : Step R m) (hf : ∀ a, Ensures Q (f a)) : Ensures Q (m >>= f) := by
  intro s b s' hr
  obtain ⟨a, s1, h1, h2⟩ := M.bind_ok hr
  exact w.left _ _ _ (hm.ok h1) (hf a _ _ _ h2)

theorem before (w : Widens R Q) {m : LM α} {f : α → LM β} (hm : Ensures Q m) (hf : ∀ a, Step R (f a)) : Ensures Q (m >>= f) := by
  intro s b s' hr
  obtain ⟨a, s1, h1, h2⟩ := M.bind_ok hr
  exact w.right _ _ _ (hm _ _ _ h1) ((hf a).ok h2)

/-- the program is what `if c then m` followed by `k` in a `do` block elaborates to -/
theorem whenThen (w : Widens R Q) {c : Prop} [Decidable c] {m : LM PUnit} {k : LM α} (hm : Step R m) (hk : Ensures Q k) :
    Ensures Q (if c then m >>= fun _ => k else k) := by
  by_cases hc : c
  · rw [if_pos hc]; exact after w hm fun _ => hk
  · rw [if_neg hc]; exact hk

theorem foldM_all {f : β → α → LM β} {C : α → DB → DB → Prop} (w : ∀ a, Widens R (C a))
    (hf : ∀ b a, Ensures (C a) (f b a)) (hstep : ∀ b a, Step R (f b a)) :
    ∀ (l : List α) (b : β), Ensures (fun s s' => ∀ a ∈ l, C a s s') (M.foldM f b l) := by
  intro l
  induction l with
  | nil => intro _ _ _ _ _ a ha; cases ha
  | cons x xs ih =>
    intro b s b' s' hr a ha
    obtain ⟨b1, s1, h1, h2⟩ := M.bind_ok (m := f b x) hr
    rcases List.mem_cons.mp ha with rfl | hin
    · exact (w a).right _ _ _ (hf _ _ _ _ _ h1) ((Step.foldM (R := R) (f := f) (l := xs) (b := b1) hstep).ok h2)
    · exact (w a).left _ _ _ ((hstep b x).ok h1) (ih b1 s1 b' s' h2 a hin)

end Ensures

end Pegnet

import Proofs.BatchLemmas
/-
  C06 / C07 / C17, the "at least once" half: every batch in the holding window of a rated block
  is CONSIDERED while that block is applied — a status is written for it, or it is skipped as
  already executed (replay mark), or its conversion cannot be computed and it is dropped.

  The proof uses the history variable `DB.statusLog` (every `SetTransactionHistoryExecuted`
  call, in order). `statusLogAndRelsGrow` (the status log is only ever extended, replay marks stay)
  holds for every primitive, hence for every piece of the block transaction (Proofs/Frame); a status
  written at some point of the block is therefore still in the log when the block ends (`Ensures`, `Widens`).
-/
namespace Pegnet

def statusLogGrows : Rel DB := monoRel (·.statusLog) (· <+: ·) List.prefix_refl fun _ _ _ => List.IsPrefix.trans

theorem statusLogGrows_keep (s s' : DB) (e : s'.statusLog = s.statusLog) : statusLogGrows.r s s' := by
  show s.statusLog <+: s'.statusLog
  rw [e]
  exact List.prefix_refl _

def statusLogAndRelsGrow : Rel DB := statusLogGrows.and relsGrow

theorem logExec_statusLogAndRelsGrow : ∀ x, Step statusLogAndRelsGrow (logExec x) :=
  fun _ => Step.guarded (fun _ => ⟨statusLogGrows_keep _ _ rfl, fun _ h => h⟩)

theorem primsOK_statusLogAndRelsGrow (P : Params) (h : Nat) : PrimsOK P h statusLogAndRelsGrow :=
  primsOK_of_obs (fun s => (s.statusLog, s.rels))
    (fun s s' e => ⟨statusLogGrows_keep s s' (congrArg Prod.fst e), relsGrow_keep s s' (congrArg Prod.snd e)⟩)
    (setExecuted := fun hash v => Step.guarded fun s => ⟨List.prefix_append _ _, fun _ hx => hx⟩)
    (insertRelation := fun hash a i t c =>
      (guarded_keep (·.statusLog) statusLogGrows_keep fun s => by split <;> rfl).and ((primsOK_relsGrow P h).insertRelation hash a i t c))

/-- a non-zero status for `x` was written between `s` and `s'` -/
def Wrote (s s' : DB) (x : Hash) : Prop :=
  ∃ pre post v, v ≠ 0 ∧ s'.statusLog = s.statusLog ++ pre ++ (x, v) :: post

theorem wrote_widens (x : Hash) : Widens statusLogAndRelsGrow (Wrote · · x) where
  left := by
    intro s0 s s' h0 hw
    obtain ⟨t, ht⟩ : s0.statusLog <+: s.statusLog := h0.1
    obtain ⟨pre, post, v, hnz, hv⟩ := hw
    exact ⟨t ++ pre, post, v, hnz, by rw [hv, ← ht, List.append_assoc _ t pre]⟩
  right := by
    intro s s' s'' hw h2
    obtain ⟨t, ht⟩ : s'.statusLog <+: s''.statusLog := h2.1
    obtain ⟨pre, post, v, hnz, hv⟩ := hw
    exact ⟨pre, post ++ t, v, hnz, by rw [← ht, hv, List.append_assoc _ _ t, List.cons_append]⟩

theorem setExecuted_wrote (hash : Hash) {v : Int} (hv : v ≠ 0) : Ensures (Wrote · · hash) (setExecuted hash v) :=
  fun _ _ _ h => ⟨[], [], v, hv, by rw [(M.guarded_ok h).2, List.append_nil]⟩

section
variable {P : Params} {h : Nat}

/-- `hpos`: the status an accepted batch writes is the height, and `Wrote` asks for a non-zero one -/
theorem applyBatch_wrote (hpos : 0 < h) {e : TxEntry} {rates avgs : Option TMap} {s s' : DB}
    (hr : applyBatch P h e rates avgs s = .ok .apply s') (hne : e.txs ≠ []) : Wrote s s' e.hash := by
  have hrec := (applyBatch_apply hr).2
  obtain ⟨t, rest, htx⟩ := List.exists_cons_of_ne_nil hne
  rw [htx] at hrec
  -- logging the execution does not touch the status log
  exact recordBatch_ensures (primsOK_statusLogAndRelsGrow P h) (wrote_widens e.hash) e.hash rates avgs t rest
    (.inr (setExecuted_wrote e.hash (Int.natCast_ne_zero.2 (Nat.ne_of_gt hpos)))) { s with execLog := s.execLog ++ [e.hash] } _ _ hrec

/-- how one held batch was dealt with between `s` and `s'`: a NON-ZERO status (the executing height or a
    negative reject code) was written for it, or it carries a replay mark (it was executed already), or
    its conversion could not be computed at some state `sm` (the batch is dropped, see C17's known finding) -/
def Considered (P : Params) (h : Nat) (rates avgs : TMap) (s s' : DB) (e : TxEntry) : Prop :=
  Wrote s s' e.hash ∨ s'.isReplay e.hash = true ∨ ∃ sm, verdict P sm h (some rates) (some avgs) e.txs = .dropped

theorem considered_widens {rates avgs : TMap} (e : TxEntry) : Widens statusLogAndRelsGrow (Considered P h rates avgs · · e) where
  left := fun _ _ _ h0 hc => hc.imp_left ((wrote_widens e.hash).left _ _ _ h0)
  right := fun _ _ _ hc h2 => hc.imp (fun w => (wrote_widens e.hash).right _ _ _ w h2) (Or.imp_left (h2.2 _))

theorem applyHeld_considers (hpos : 0 < h) {rates avgs : TMap} {e : TxEntry} {s s' : DB} {b : Bool}
    (hr : applyHeld P h rates avgs e s = .ok b s') : Considered P h rates avgs s s' e := by
  have hset : ∀ {v : Int}, v ≠ 0 → Ensures (Wrote · · e.hash) (setExecuted e.hash v >>= fun _ => pure false) :=
    fun hv => Ensures.before (wrote_widens e.hash) (setExecuted_wrote e.hash hv) fun _ => Step.pure _
  rw [applyHeld_run] at hr
  by_cases hinv : e.heldInvalid P h = true
  · -- invalid now: status -2
    rw [if_pos hinv] at hr
    exact Or.inl (hset (by decide) _ _ _ hr)
  · rw [if_neg hinv] at hr
    by_cases hrep : s.isReplay e.hash = true
    · rw [if_pos hrep] at hr
      cases hr
      exact Or.inr (Or.inl hrep)
    · rw [if_neg hrep] at hr
      obtain ⟨v, s1, h1, h2⟩ := M.bind_ok hr
      obtain ⟨hv, hnf, _⟩ := applyBatch_ok h1
      cases v with
      | reject c =>
        obtain rfl := applyBatch_noop h1 nofun
        exact Or.inl (hset (Int.ne_of_lt (verdict_reject_neg hv)) _ _ _ h2)
      | apply =>
        cases h2
        exact Or.inl (applyBatch_wrote hpos h1 (validAt_txs_ne_nil (TxEntry.heldInvalid_false hinv)))
      | dropped => exact Or.inr (Or.inr ⟨s, hv⟩)
      | failBlock f => exact absurd rfl (hnf f)

/-- **every batch in the holding window is considered** by `ApplyTransactionBatchesInHolding` -/
theorem applyHolding_considers (hpos : 0 < h) {c : DB} {rates avgs : TMap} {fromH : Nat} {s s' : DB}
    (hr : applyHolding P c h rates avgs fromH s = .ok () s') :
    ∀ row ∈ c.holding, fromH ≤ row.height → row.height < h → Considered P h rates avgs s s' row.entry := by
  have heldStep : ∀ (l : List TxEntry) e, Step statusLogAndRelsGrow (applyHeld P h rates avgs e >>= fun join => pure (if join then l ++ [e] else l)) :=
    fun _ e => Step.bind (applyHeld_step (primsOK_statusLogAndRelsGrow P h) logExec_statusLogAndRelsGrow rates avgs e) fun _ => Step.pure _
  have pegStep := recordPegRequests_step (primsOK_statusLogAndRelsGrow P h) rates avgs
  let C : Nat → DB → DB → Prop := fun i s s' =>
    ∀ e ∈ (c.holding.filter (·.height == i)).map (·.entry), Considered P h rates avgs s s' e
  have wC : ∀ i, Widens statusLogAndRelsGrow (C i) := fun i => Widens.all _ considered_widens
  intro row hrow hlo hhi
  unfold applyHolding at hr
  -- the window (outer fold, then the bank pass), one height of it (inner fold, then the bank pass), one held batch
  refine Ensures.before (Widens.all (· ∈ _) wC) (Ensures.foldM_all wC (fun pend i => ?_) (fun pend i => ?_) _ _) (fun pegs => ?_)
    s () s' hr row.height ?_ row.entry ?_
  · exact Ensures.before (wC i)
      (Ensures.foldM_all considered_widens
        (fun l e => Ensures.before (considered_widens e) (fun _ _ _ hr => applyHeld_considers hpos hr) fun _ => Step.pure _)
        heldStep _ _)
      fun p1 => Step.ite (Step.bind (pegStep p1 _ _) fun _ => Step.pure _) (Step.pure _)
  · exact Step.bind (Step.foldM heldStep) fun p1 => Step.ite (Step.bind (pegStep p1 _ _) fun _ => Step.pure _) (Step.pure _)
  · exact Step.ite (Step.bind Step.get fun db => pegStep pegs _ _) (Step.pure _)
  · exact List.mem_map.2 ⟨row.height - fromH, List.mem_range.2 (Nat.sub_lt_sub_right hlo hhi), Nat.sub_add_cancel hlo⟩
  · exact List.mem_map.2 ⟨row, List.mem_filter.2 ⟨hrow, beq_self_eq_true _⟩, rfl⟩

end

section
variable {P : Params} {c : DB} {b : Block} {avgs : TMap}

def WindowConsidered (P : Params) (c : DB) (b : Block) (avgs : TMap) (s s' : DB) : Prop :=
  ∃ rates, ∀ row ∈ c.holding, (c.mostRecentRatesBefore b.height).2 ≤ row.height → row.height < b.height →
    Considered P b.height rates avgs s s' row.entry

theorem windowConsidered_widens : Widens statusLogAndRelsGrow (WindowConsidered P c b avgs) where
  left _ _ _ h0 hc := hc.imp fun _ hr row h1 h2 h3 => (considered_widens _).left _ _ _ h0 (hr row h1 h2 h3)
  right _ _ _ hc h2 := hc.imp fun _ hr row h1 h2' h3 => (considered_widens _).right _ _ _ (hr row h1 h2' h3) h2

theorem holdingPhase_considers (hpos : 0 < b.height) : Ensures (WindowConsidered P c b avgs) (holdingPhase P c b avgs true) := by
  have ok := primsOK_statusLogAndRelsGrow P b.height
  have w := windowConsidered_widens (P := P) (c := c) (b := b) (avgs := avgs)
  unfold holdingPhase
  rw [if_pos rfl]
  -- the optional bank row, the flag, then the window with the rates just read
  exact Ensures.whenThen w (ok.insertBank _) (Ensures.after w ok.touch fun _ => Ensures.after w Step.get fun db _ _ _ hr =>
    ⟨ratesToMap P (db.ratesAt b.height), applyHolding_considers hpos hr⟩)

theorem txPhase_considers (hpos : 0 < b.height) (htx : b.height ≥ P.act.txConv) :
    Ensures (WindowConsidered P c b avgs) (txPhase P c b avgs true) := by
  have ok := primsOK_statusLogAndRelsGrow P b.height
  have w := windowConsidered_widens (P := P) (c := c) (b := b) (avgs := avgs)
  unfold txPhase
  rw [if_pos htx]
  exact Ensures.after w ((snapshotPhase_built b (compsB_std b ok)).step) (fun _ =>
    Ensures.before w (holdingPhase_considers hpos) (fun _ => txBlockPhase_step b ok logExec_statusLogAndRelsGrow))

/-- **Block level.** When the block transaction of a block at or above the transaction
    activation succeeds, then either the block had no usable rates (grading returned early or
    without rates — conversions wait), or every batch held at a height of the window
    `[last rated height, this height)` has been considered: a status was written for it during
    this block, or it bears a replay mark, or its conversion was not computable (dropped). -/
theorem block_considers_held (hpos : 0 < b.height) {s' : DB} (hrun : blockTx P c b avgs c = .ok () s') (htx : b.height ≥ P.act.txConv) :
    (∃ s1 s2 st, gradeAndRates P c b s1 = .ok st s2 ∧ st ≠ .cont true) ∨
    ∃ rates, ∀ row ∈ c.holding, (c.mostRecentRatesBefore b.height).2 ≤ row.height → row.height < b.height →
      Considered P b.height rates avgs c s' row.entry := by
  have ok := primsOK_statusLogAndRelsGrow P b.height
  let Q : DB → DB → Prop := fun s s' =>
    (∃ s1 s2 st, gradeAndRates P c b s1 = .ok st s2 ∧ st ≠ .cont true) ∨ WindowConsidered P c b avgs s s'
  have w : Widens statusLogAndRelsGrow Q :=
    ⟨fun _ _ _ h0 hq => hq.imp_right (windowConsidered_widens.left _ _ _ h0),
     fun _ _ _ hq h2 => hq.imp_right (fun h => windowConsidered_widens.right _ _ _ h h2)⟩
  have hsync : Ensures Q (syncBlock P c b avgs) := by
    unfold syncBlock
    refine Ensures.after w ((preAdjust_built c b (ok.toJ id) fun _ => trivial).step) (fun _ =>
      Ensures.after w ((sprPanicCheck_built b).step) (fun _ => ?_))
    intro s4 u s2 hr
    obtain ⟨st, s5, h9, h10⟩ := M.bind_ok hr
    by_cases hst : st = .cont true
    · subst hst
      exact w.left _ _ _ (((gradeAndRates_built c b (ok.toJ id)).step).ok h9)
        (Or.inr (Ensures.before windowConsidered_widens (txPhase_considers hpos htx) (fun _ => (rewardPhase_built b (compsB_std b ok)).step) _ _ _ h10))
    · exact Or.inl ⟨s4, s5, st, h9, hst⟩
  unfold blockTx at hrun
  exact Ensures.after w (burnZeroing_step c b ok)
    (fun _ => Ensures.before w hsync (fun _ => ok.markSynced _)) _ _ _ hrun

end

end Pegnet

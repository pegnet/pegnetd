import Proofs.Built
import Proofs.Cases
/-
  One structural proof for the whole block transaction: `blockTx` is built (`Built`) from the primitive
  table operations, and reads the state it runs on only through the ledger (every table but the version
  bookkeeping).  The lemmas follow the model function by function, for an arbitrary leaf predicate `L`
  that holds of the primitives (`PrimsJ`); the upper ones leave holes for the work on one arriving entry,
  on one held entry and for the scheduled adjustments, so that a judgement which has to treat those by
  hand (Proofs/ExecOnce) can use the same skeleton.

  For `Step R` the leaves are `PrimsOK`: if every primitive table operation of the block at height `h`
  respects a relation `R`, so does `blockTx` (`blockTx_stepA`, `blockTx_step`).  Property-specific
  relations then only have to discharge the primitive obligations.

  Argument order: first what is assumed for all arguments alike — the leaves `ok` (after `c b avgs` where the height is
  `b.height`), then `hlog`, `hT`, `hsw`, the composites — then the arguments of the model function and the hypotheses about
  them. `applyBatch_stepA` and `applyTxEntry_stepA` differ: they take `hlog` and the composites last; `burnZeroing_built`
  and `syncBlock_prims` take the composites before `hsw` / `hlog`.
-/
namespace Pegnet

def DB.ledger (db : DB) : DB := { db with syncVersions := [] }

/-- the primitive table operations as the block at height `h` uses them -/
structure PrimsOK (P : Params) (h : Nat) (R : Rel DB) (Auth : Addr → Prop := fun _ => True)
    (AuthT : HistTx → Prop := fun _ => True) (AuthH : Prop := True) : Prop where
  addBal : ∀ a t v, Step R (addBal P a t v)
  /-- `SubFromBalance` has to respect `R` only for the addresses the block is entitled to debit -/
  subBal : ∀ a t v, Auth a → Step R (subBal P a t v)
  insertRate : ∀ tok v, Step R (insertRate h tok v)
  insertHistBatch : ∀ r, Step R (insertHistBatch r)
  /-- inserting a history row has to respect `R` only for the rows `AuthT` admits (a relation that
      needs the batch row to be there first takes `AuthT := fun _ => False` and proves the composites
      that insert both directly: `HistComps`) -/
  insertHistTx : ∀ r, AuthT r → Step R (insertHistTx r)
  insertLookup : ∀ r, Step R (insertLookup r)
  setExecuted : ∀ hash v, Step R (setExecuted hash v)
  setConvertedAmount : ∀ hash i a, Step R (setConvertedAmount hash i a)
  setPegConverted : ∀ hash i a o, Step R (setPegConverted hash i a o)
  insertRelation : ∀ hash a i t c, Step R (insertRelation hash a i t c)
  /-- likewise for the holding row, which follows the batch row of its entry (`HistComps.hold`) -/
  insertHolding : ∀ e keymr, AuthH → Step R (insertHolding { entry := e, height := h, keymr := keymr })
  insertBank : ∀ a, Step R (insertBank h a)
  updateBank : ∀ bh u r, Step R (updateBank bh u r)
  insertGrade : ∀ keymr sh v c n, Step R (insertGrade { height := h, keymr := keymr, shorthashes := sh, version := v, cutoff := c, count := n })
  insertWinner : ∀ p e pay m a, Step R (insertWinner { height := h, position := p, entryhash := e, payout := pay, minerid := m, addrStr := a })
  markSynced : ∀ v, Step R (markSynced h v)
  rotate : Step R (M.guarded (fun _ => none) fun db => { db with snapPast := db.snapCur, snapCur := db.addrs })
  touch : Step R (M.guarded (fun _ => none) fun db => { db with avgTouched := true })

/-- `PrimsOK` for an arbitrary judgement `J` on programs in place of `Step R`. `markSynced` is left out: it is
    used once, by `blockTx` itself, and is the one operation that reads the version table. -/
structure PrimsJ (P : Params) (h : Nat) (J : ∀ {α : Type}, LM α → Prop) (Auth : Addr → Prop := fun _ => True)
    (AuthT : HistTx → Prop := fun _ => True) (AuthH : Prop := True) : Prop where
  addBal : ∀ a t v, J (addBal P a t v)
  subBal : ∀ a t v, Auth a → J (subBal P a t v)
  insertRate : ∀ tok v, J (insertRate h tok v)
  insertHistBatch : ∀ r, J (insertHistBatch r)
  insertHistTx : ∀ r, AuthT r → J (insertHistTx r)
  insertLookup : ∀ r, J (insertLookup r)
  setExecuted : ∀ hash v, J (setExecuted hash v)
  setConvertedAmount : ∀ hash i a, J (setConvertedAmount hash i a)
  setPegConverted : ∀ hash i a o, J (setPegConverted hash i a o)
  insertRelation : ∀ hash a i t c, J (insertRelation hash a i t c)
  insertHolding : ∀ e keymr, AuthH → J (insertHolding { entry := e, height := h, keymr := keymr })
  insertBank : ∀ a, J (insertBank h a)
  updateBank : ∀ bh u r, J (updateBank bh u r)
  insertGrade : ∀ keymr sh v c n, J (insertGrade { height := h, keymr := keymr, shorthashes := sh, version := v, cutoff := c, count := n })
  insertWinner : ∀ p e pay m a, J (insertWinner { height := h, position := p, entryhash := e, payout := pay, minerid := m, addrStr := a })
  rotate : J (M.guarded (fun _ => none) fun db => { db with snapPast := db.snapCur, snapCur := db.addrs })
  touch : J (M.guarded (fun _ => none) fun db => { db with avgTouched := true })

/-- `f := id` gives the leaves for `Step R` itself -/
theorem PrimsOK.toJ {P : Params} {h : Nat} {R : Rel DB} {J : ∀ {α : Type}, LM α → Prop} {Auth : Addr → Prop} {AuthT : HistTx → Prop} {AuthH : Prop}
    (f : ∀ {α : Type} {m : LM α}, Step R m → J m) (o : PrimsOK P h R Auth AuthT AuthH) : PrimsJ P h J Auth AuthT AuthH :=
  ⟨fun a t v => f (o.addBal a t v), fun a t v ha => f (o.subBal a t v ha), fun a b => f (o.insertRate a b), fun a => f (o.insertHistBatch a),
   fun a b => f (o.insertHistTx a b), fun a => f (o.insertLookup a), fun a b => f (o.setExecuted a b), fun a b c => f (o.setConvertedAmount a b c),
   fun a b c d => f (o.setPegConverted a b c d), fun a b c d e => f (o.insertRelation a b c d e), fun a b c => f (o.insertHolding a b c),
   fun a => f (o.insertBank a), fun a b c => f (o.updateBank a b c), fun a b c d e => f (o.insertGrade a b c d e),
   fun a b c d e => f (o.insertWinner a b c d e), f o.rotate, f o.touch⟩

theorem subBal_built {L : ∀ {α : Type}, LM α → Prop} (P : Params) (a : Addr) (t : Ticker) (v : Nat)
    (hadd : L (addBal P a t 0)) (hdeb : L (debit a t v)) : Built L DB.ledger (subBal P a t v) :=
  .ite (.bind (.leaf hadd) fun _ => .pure _) (.ite (.throw _) (.read (fun _ => rfl) fun _ =>
    .ite (.pure _) (.bind (.leaf hdeb) fun _ => .pure _)))

theorem subBal_step_of {R : Rel DB} (P : Params) (a : Addr) (t : Ticker) (v : Nat)
    (hadd : Step R (addBal P a t 0)) (hdeb : Step R (debit a t v)) : Step R (subBal P a t v) :=
  (subBal_built P a t v hadd hdeb).step

section
variable {P : Params} {h : Nat} {L : ∀ {α : Type}, LM α → Prop} {Auth : Addr → Prop} {AuthT : HistTx → Prop} {AuthH : Prop}
  (ok : PrimsJ P h L Auth AuthT AuthH)
include ok

theorem recordOutputs_built (hash : Hash) (rates avgs : Option TMap) (idx : Nat) (t : Tx) :
    Built L DB.ledger (recordOutputs P h hash rates avgs idx t) := by
  refine .ite ?_ (.ite ?_ ?_)
  · split
    · exact .throw _
    · exact .pure _
  · split
    · exact .throw _
    · exact .bind (.leaf (ok.setConvertedAmount ..)) fun _ => .leaf (ok.addBal ..)
  · exact .forEach fun tr => .ite (.pure _) (.bind (.leaf (ok.addBal ..)) fun _ => .leaf (ok.insertRelation ..))

theorem recordTx_built (hash : Hash) (rates avgs : Option TMap) (idx : Nat) (t : Tx) (ha : Auth t.inAddr) :
    Built L DB.ledger (recordTx P h hash rates avgs idx t) :=
  .bind (.leaf (ok.subBal _ _ _ ha)) fun _ => .ite (.throw _) (.bind (.leaf (ok.insertRelation ..)) fun _ =>
    .bind (.leaf (ok.setExecuted ..)) fun _ => recordOutputs_built ok ..)

theorem recordBatch_built (hash : Hash) (rates avgs : Option TMap) (txs : List Tx) (ha : ∀ t ∈ txs, Auth t.inAddr) :
    Built L DB.ledger (recordBatch P h hash rates avgs txs) :=
  .forEachIdx_mem fun i t ht => recordTx_built ok hash rates avgs i t (ha t ht)

theorem applyBatch_built (hlog : ∀ x, L (logExec x)) (e : TxEntry) (rates avgs : Option TMap) (ha : ∀ t ∈ e.txs, Auth t.inAddr) :
    Built L DB.ledger (applyBatch P h e rates avgs) := by
  refine .read (fun _ => rfl) fun db => ?_
  split
  · exact .bind (.leaf (hlog _)) fun _ => .bind (recordBatch_built ok _ _ _ _ ha) fun _ => .pure _
  · exact .throw _
  · exact .pure _

theorem payPegReq_built (rates : TMap) (r : PegReq) (y : Nat) : Built L DB.ledger (payPegReq P h rates r y) :=
  .bind (.leaf (ok.setPegConverted ..)) fun _ => .bind (.leaf (ok.addBal ..)) fun _ => .leaf (ok.addBal ..)

theorem recordPegRequests_built (rates avgs : TMap) (bs : List TxEntry) (bank : Nat) (bh : Int) :
    Built L DB.ledger (recordPegRequests P h rates avgs bs bank bh) :=
  .whenThen (.throw _) (.bind (.forEach fun _ => payPegReq_built ok ..) fun _ => .ite (.leaf (ok.updateBank ..)) (.pure _))

theorem mintTokens_built : Built L DB.ledger (mintTokens P) :=
  .forEach fun _ => .leaf (ok.addBal ..)

theorem nullifyMinted_built (c : DB) (ha : Auth P.mintAddr) : Built L DB.ledger (nullifyMinted P c) :=
  .forEach fun _ => .bind (.leaf (ok.subBal _ _ _ ha)) fun _ => .ite (.throw _) (.pure _)

theorem insertZeroingCoinbase_built (hT : ∀ r, AuthT r) (txid : String) (i hh : Nat) (ts : Int) (payout : Nat) (asset : String) (a : Addr) :
    Built L DB.ledger (insertZeroingCoinbase txid i hh ts payout asset a) :=
  .bind (.leaf (ok.insertHistBatch _)) fun _ => .whenThen (.throw _)
    (.bind (.leaf (ok.insertHistTx _ (hT _))) fun _ => .leaf (ok.insertLookup _))

theorem nullifyBurnLoop_built (hsw : ∀ {m : LM Unit}, Built L DB.ledger m → L (M.swallow m))
    (hz : ∀ txid i hh ts payout asset a, Built L DB.ledger (insertZeroingCoinbase txid i hh ts payout asset a))
    (c : DB) (hh : Nat) (ts : Int) (a : Addr) (ha : Auth a) (i j : Nat) (ts' : List Ticker) :
    Built L DB.ledger (nullifyBurnLoop P c hh ts a i j ts') := by
  induction ts' generalizing i j with
  | nil => exact .pure _
  | cons t rest ih =>
    exact .bind (.leaf (hsw (.bind (.leaf (ok.subBal _ _ _ ha)) fun _ => .pure _))) fun _ => .whenThen (hz ..) (ih ..)

theorem nullifyBurn_built (hsw : ∀ {m : LM Unit}, Built L DB.ledger m → L (M.swallow m))
    (hz : ∀ txid i hh ts payout asset a, Built L DB.ledger (insertZeroingCoinbase txid i hh ts payout asset a))
    (c : DB) (hh : Nat) (ts : Int) (ha : Auth (if hh < P.act.v202 then P.oldBurnAddr else P.burnAddr)) :
    Built L DB.ledger (nullifyBurn P c hh ts) :=
  nullifyBurnLoop_built ok hsw hz c hh ts _ ha ..

theorem insertGradeBlock_built (keymr : String) (g : OprGraded) : Built L DB.ledger (insertGradeBlock h keymr g) :=
  .bind (.leaf (ok.insertGrade ..)) fun _ => .ite (.forEach fun _ => .leaf (ok.insertWinner ..)) (.pure _)

theorem insertRates_built (c : DB) (assets : List (String × Nat)) (phase : Phase) :
    Built L DB.ledger (insertRates P c h assets phase) :=
  .bind (.forEach fun _ => .ite (.pure _) (.leaf (ok.insertRate ..))) fun _ => .leaf (ok.insertRate ..)

theorem snapshotPayouts_built (hT : ∀ r, AuthT r) (ts : Int) (rates : TMap) (order : List Addr) :
    Built L DB.ledger (snapshotPayouts P h ts rates order) := by
  refine .bind (.leaf ok.rotate) fun _ => .read (fun _ => rfl) fun db => .bind (.foldM fun l j => ?_) fun staked =>
    .whenThen (.throw _) (.ite (.bind (.leaf (ok.insertHistBatch _)) fun _ =>
      .bind (.forEach fun lp => .bind (.leaf (ok.insertHistTx _ (hT _))) fun _ => .leaf (ok.insertLookup _)) fun _ =>
      .forEach fun lp => .leaf (ok.addBal ..)) (.pure _))
  split
  · exact .throw _
  · exact .pure _

theorem devPayoutLoop_built (hT : ∀ r, AuthT r) (ts : Int) (i j : Nat) (l : List (Addr × Nat)) :
    Built L DB.ledger (devPayoutLoop P h ts i j l) := by
  induction l generalizing i j with
  | nil => exact .pure _
  | cons d rest ih =>
    exact .bind (.leaf (ok.addBal ..)) fun _ => .bind (.leaf (ok.insertHistBatch _)) fun _ =>
      .bind (.leaf (ok.insertHistTx _ (hT _))) fun _ => .bind (.leaf (ok.insertLookup _)) fun _ => ih ..

theorem recordHistory_built (hT : ∀ r, AuthT r) (bo : Nat) (e : TxEntry) : Built L DB.ledger (recordHistory P h bo e) :=
  .bind (.leaf (ok.insertHistBatch _)) fun _ => .forEachIdx_mem fun _ _ _ => .bind (.leaf (ok.insertLookup _)) fun _ =>
    .ite (.leaf (ok.insertHistTx _ (hT _)))
      (.bind (.forEach fun _ => .leaf (ok.insertLookup _)) fun _ => .leaf (ok.insertHistTx _ (hT _)))

theorem applyTxEntry_built (hlog : ∀ x, L (logExec x)) (hrec : ∀ bo e, Built L DB.ledger (recordHistory P h bo e))
    (hhold : ∀ keymr bo e, Built L DB.ledger (recordHistory P h bo e >>= fun _ => insertHolding { entry := e, height := h, keymr := keymr }))
    (keymr : String) (bo : Nat) (e : TxEntry) (ha : e.validAt P h = true → ∀ t ∈ e.txs, Auth t.inAddr) :
    Built L DB.ledger (applyTxEntry P h keymr bo e) := by
  refine .read (fun _ => rfl) fun db => .ite' (fun hc => ?_) fun _ => .pure _
  split
  · exact hhold ..
  · refine .bind (hrec ..) fun _ => .bind (applyBatch_built ok hlog e none none (ha (TxEntry.arrives_true (s := db) hc).1)) fun v => ?_
    split
    · exact .leaf (ok.setExecuted ..)
    · exact .throw _
    · exact .pure _

theorem applyHeld_built (hlog : ∀ x, L (logExec x)) (rates avgs : TMap) (e : TxEntry) (ha : e.validAt P h = true → ∀ t ∈ e.txs, Auth t.inAddr) :
    Built L DB.ledger (applyHeld P h rates avgs e) := by
  refine .read (fun _ => rfl) fun db => .ite' (fun _ => .bind (.leaf (ok.setExecuted ..)) fun _ => .pure _) fun hc =>
    .ite (.pure _) (.bind (applyBatch_built ok hlog e (some rates) (some avgs) (ha (TxEntry.heldInvalid_false hc))) fun v => ?_)
  split
  · exact .bind (.leaf (ok.setExecuted ..)) fun _ => .pure _
  · exact .pure _

theorem applyHolding_built (c : DB) (rates avgs : TMap) (fromH : Nat)
    (hheld : ∀ row ∈ c.holding, Built L DB.ledger (applyHeld P h rates avgs row.entry)) :
    Built L DB.ledger (applyHolding P c h rates avgs fromH) := by
  refine .bind (.foldM fun pend i => .bind (.foldM_mem fun l e he => .bind ?_ fun _ => .pure _) fun _ =>
    .ite (.bind (recordPegRequests_built ok ..) fun _ => .pure _) (.pure _)) fun _ =>
    .ite (.read (fun _ => rfl) fun _ => recordPegRequests_built ok ..) (.pure _)
  obtain ⟨row, hrow, rfl⟩ := List.mem_map.1 he
  exact hheld row (List.mem_filter.1 hrow).1

/-- the common body of `applyFct`, `applyGradedOPR` and `applyGradedSPR` -/
theorem creditWithHistory_built (hT : ∀ r, AuthT r) (a : Addr) (t : Ticker) (v : Nat) (b : HistBatch) (r : HistTx) (l : HistLookup) :
    Built L DB.ledger (do addBal P a t v; insertHistBatch b; insertHistTx r; insertLookup l) :=
  .bind (.leaf (ok.addBal ..)) fun _ => .bind (.leaf (ok.insertHistBatch _)) fun _ =>
    .bind (.leaf (ok.insertHistTx _ (hT _))) fun _ => .leaf (ok.insertLookup _)

theorem applyFct_built (hT : ∀ r, AuthT r) (rcd : Addr) (f : FctTx) : Built L DB.ledger (applyFct P h rcd f) := by
  unfold applyFct
  split
  · exact .pure _
  · exact creditWithHistory_built ok hT ..

theorem applyGradedOPR_built (hT : ∀ r, AuthT r) (oh ts : Int) (ws : List OprW) : Built L DB.ledger (applyGradedOPR P oh ts ws) := by
  refine .forEach fun w => ?_
  split
  · exact .pure _
  · exact creditWithHistory_built ok hT ..

theorem applyGradedSPR_built (hT : ∀ r, AuthT r) (oh ts : Int) (ws : List SprW) : Built L DB.ledger (applyGradedSPR P oh ts ws) := by
  refine .forEach fun w => ?_
  split
  · exact .pure _
  · exact creditWithHistory_built ok hT ..

end

/-- the composites that insert a batch row and then transaction rows of the same hash: what the
    block-level theorems need of them. Derived from the primitives when `AuthT` admits every row
    (`histComps_of_prims`); proved directly for relations about the two history tables together. -/
structure HistComps (P : Params) (h : Nat) (R : Rel DB) : Prop where
  zero : ∀ txid i hh ts payout asset a, Step R (insertZeroingCoinbase txid i hh ts payout asset a)
  snap : ∀ ts rates order, Step R (snapshotPayouts P h ts rates order)
  dev : ∀ ts, Step R (developersPayouts P h ts)
  hist : ∀ bo e, Step R (recordHistory P h bo e)
  hold : ∀ keymr bo e, Step R (recordHistory P h bo e >>= fun _ => insertHolding { entry := e, height := h, keymr := keymr })
  fct : ∀ rcd fcts, Step R (applyFactoidBlock P h rcd fcts)
  opr : ∀ oh ts ws, Step R (applyGradedOPR P oh ts ws)
  spr : ∀ oh ts ws, Step R (applyGradedSPR P oh ts ws)

/-- `HistComps` for `Built L DB.ledger` in place of `Step R` -/
structure CompsB (P : Params) (h : Nat) (L : ∀ {α : Type}, LM α → Prop) : Prop where
  zero : ∀ txid i hh ts payout asset a, Built L DB.ledger (insertZeroingCoinbase txid i hh ts payout asset a)
  snap : ∀ ts rates order, Built L DB.ledger (snapshotPayouts P h ts rates order)
  dev : ∀ ts, Built L DB.ledger (developersPayouts P h ts)
  hist : ∀ bo e, Built L DB.ledger (recordHistory P h bo e)
  hold : ∀ keymr bo e, Built L DB.ledger (recordHistory P h bo e >>= fun _ => insertHolding { entry := e, height := h, keymr := keymr })
  fct : ∀ rcd fcts, Built L DB.ledger (applyFactoidBlock P h rcd fcts)
  opr : ∀ oh ts ws, Built L DB.ledger (applyGradedOPR P oh ts ws)
  spr : ∀ oh ts ws, Built L DB.ledger (applyGradedSPR P oh ts ws)

theorem compsB_of_prims {P : Params} {h : Nat} {L : ∀ {α : Type}, LM α → Prop} {Auth : Addr → Prop} {AuthT : HistTx → Prop} {AuthH : Prop}
    (ok : PrimsJ P h L Auth AuthT AuthH) (hT : ∀ r, AuthT r) (hH : AuthH) : CompsB P h L :=
  ⟨insertZeroingCoinbase_built ok hT, snapshotPayouts_built ok hT, fun _ => devPayoutLoop_built ok hT .., recordHistory_built ok hT,
   fun keymr bo e => .bind (recordHistory_built ok hT bo e) fun _ => .leaf (ok.insertHolding e keymr hH),
   fun rcd _ => .forEach (applyFct_built ok hT rcd), applyGradedOPR_built ok hT, applyGradedSPR_built ok hT⟩

theorem HistComps.toB {P : Params} {h : Nat} {R : Rel DB} (hc : HistComps P h R) : CompsB P h (Step R) :=
  ⟨fun _ _ _ _ _ _ _ => .leaf (hc.zero ..), fun _ _ _ => .leaf (hc.snap ..), fun _ => .leaf (hc.dev ..), fun _ _ => .leaf (hc.hist ..),
   fun _ _ _ => .leaf (hc.hold ..), fun _ _ => .leaf (hc.fct ..), fun _ _ _ => .leaf (hc.opr ..), fun _ _ _ => .leaf (hc.spr ..)⟩

section
variable {P : Params} {L : ∀ {α : Type}, LM α → Prop} {Auth : Addr → Prop} {AuthT : HistTx → Prop} {AuthH : Prop}
  (c : DB) (b : Block) (avgs : TMap) (ok : PrimsJ P b.height L Auth AuthT AuthH) (hc : CompsB P b.height L)

include ok in
theorem gradeAndRates_built : Built L DB.ledger (gradeAndRates P c b) := by
  unfold gradeAndRates
  dsimp only
  refine .ite ?_ ?_
  · split
    · exact .throw _
    · exact .pure _
    · exact .bind (insertGradeBlock_built ok ..) fun _ => .ite (.bind (insertRates_built ok ..) fun _ => .pure _) (.pure _)
  · split
    · exact .throw _
    · exact .throw _
    · refine .bind ?_ fun oprAssets => .ite ?_ (.pure _)
      · split
        · exact .bind (insertGradeBlock_built ok ..) fun _ => .pure _
        · exact .pure _
      · split
        · exact .pure _
        · exact .bind (insertRates_built ok ..) fun _ => .pure _

theorem sprPanicCheck_built : Built L DB.ledger (sprPanicCheck b) := by
  unfold sprPanicCheck
  split
  · exact .throw _
  · exact .pure _

include hc in
theorem snapshotPhase_built : Built L DB.ledger (snapshotPhase P b) :=
  .ite (.read (fun _ => rfl) fun _ => hc.snap ..) (.pure _)

include hc in
theorem oprRewardPhase_built : Built L DB.ledger (oprRewardPhase P b) := by
  unfold oprRewardPhase
  split
  · exact hc.opr ..
  · exact .pure _

include hc in
theorem sprRewardPhase_built : Built L DB.ledger (sprRewardPhase P b) := by
  refine .ite ?_ (.pure _)
  split
  · exact hc.spr ..
  · exact .pure _

include hc in
theorem devRewardPhase_built : Built L DB.ledger (devRewardPhase P b) :=
  .ite (hc.dev ..) (.pure _)

include hc in
theorem rewardPhase_built : Built L DB.ledger (rewardPhase P b) :=
  .whenThen (hc.fct ..) (.bind (oprRewardPhase_built b hc) fun _ => .bind (sprRewardPhase_built b hc) fun _ => devRewardPhase_built b hc)

include ok in
theorem preAdjust_built (hmint : b.height = P.act.v204Burn → Auth P.mintAddr) : Built L DB.ledger (preAdjust P c b.height) :=
  .whenThen (mintTokens_built ok) (.ite' (fun hb => nullifyMinted_built ok c (hmint hb)) fun _ => .pure _)

include ok hc in
theorem burnZeroing_built (hsw : ∀ {m : LM Unit}, Built L DB.ledger m → L (M.swallow m))
    (hburn : b.height = P.act.devRewards ∨ b.height = P.act.v202 → Auth (if b.height < P.act.v202 then P.oldBurnAddr else P.burnAddr)) :
    Built L DB.ledger (burnZeroing P c b) := by
  -- the second test is a join point of the `do` block: it occurs after the first zeroing and without it
  have second : Built L DB.ledger (if b.height = P.act.v202 then do
        let _ ← M.swallow (nullifyBurn P c b.height b.ts)
        pure ()
      else (pure () : LM Unit)) :=
    .ite' (fun hb => .bind (.leaf (hsw (nullifyBurn_built ok hsw hc.zero c _ _ (hburn (.inr hb))))) fun _ => .pure _) fun _ => .pure _
  exact .ite' (fun hb => .bind (.leaf (hsw (nullifyBurn_built ok hsw hc.zero c _ _ (hburn (.inl hb))))) fun _ => second) fun _ => second

/-! The upper part leaves holes: `hheld` for the work on one held entry, `hentry` for one arriving entry, `hpre` for
    the adjustments ahead of the block and `hbz` for the zeroing that swallows its errors. -/
section
variable (hheld : ∀ rates, ∀ row ∈ c.holding, Built L DB.ledger (applyHeld P b.height rates avgs row.entry))
  (hentry : ∀ es, b.txs = some es → ∀ i, ∀ e ∈ es, Built L DB.ledger (applyTxEntry P b.height b.txKeymr i e))

include ok hheld in
theorem holdingPhase_built (ra : Bool) : Built L DB.ledger (holdingPhase P c b avgs ra) :=
  .ite (.whenThen (.leaf (ok.insertBank _)) (.bind (.leaf ok.touch) fun _ => .read (fun _ => rfl) fun _ =>
    applyHolding_built ok c _ avgs _ (hheld _))) (.pure _)

include hentry in
theorem txBlockPhase_built : Built L DB.ledger (txBlockPhase P b) := by
  unfold txBlockPhase
  split
  · rename_i es hes
    exact .forEachIdx_mem (hentry es hes)
  · exact .pure _

include ok hc hheld hentry in
theorem txPhase_built (ra : Bool) : Built L DB.ledger (txPhase P c b avgs ra) :=
  .ite (.bind (snapshotPhase_built b hc) fun _ => .bind (holdingPhase_built c b avgs ok hheld _) fun _ => txBlockPhase_built b hentry) (.pure _)

include ok hc hheld hentry in
theorem syncBlock_built (hpre : Built L DB.ledger (preAdjust P c b.height)) : Built L DB.ledger (syncBlock P c b avgs) := by
  refine .bind hpre fun _ => .bind (sprPanicCheck_built b) fun _ => .bind (gradeAndRates_built c b ok) fun step => ?_
  split
  · exact .pure _
  · exact .bind (txPhase_built c b avgs ok hc hheld hentry _) fun _ => rewardPhase_built b hc

include ok hc hheld hentry in
theorem blockTx_built (hms : ∀ v, L (markSynced b.height v)) (hpre : Built L DB.ledger (preAdjust P c b.height))
    (hbz : Built L DB.ledger (burnZeroing P c b)) : Built L DB.ledger (blockTx P c b avgs) :=
  .bind hbz fun _ => .bind (syncBlock_built c b avgs ok hc hheld hentry hpre) fun _ => .leaf (hms _)

end

/-! the holes filled from the primitives -/
include ok hc in
theorem syncBlock_prims (hlog : ∀ x, L (logExec x))
    (htxs : ∀ es, b.txs = some es → ∀ e ∈ es, e.validAt P b.height = true → ∀ t ∈ e.txs, Auth t.inAddr)
    (hheld : ∀ row ∈ c.holding, row.entry.validAt P b.height = true → ∀ t ∈ row.entry.txs, Auth t.inAddr)
    (hmint : b.height = P.act.v204Burn → Auth P.mintAddr) : Built L DB.ledger (syncBlock P c b avgs) :=
  syncBlock_built c b avgs ok hc (fun rates row hrow => applyHeld_built ok hlog rates avgs row.entry (hheld row hrow))
    (fun es hes i e he => applyTxEntry_built ok hlog hc.hist hc.hold _ i e (htxs es hes e he)) (preAdjust_built c b ok hmint)

end

section
variable {P : Params} {h : Nat} {R : Rel DB} {Auth : Addr → Prop} {AuthT : HistTx → Prop} {AuthH : Prop} (ok : PrimsOK P h R Auth AuthT AuthH)
include ok

theorem recordOutputs_step (hash : Hash) (rates avgs : Option TMap) (idx : Nat) (t : Tx) :
    Step R (recordOutputs P h hash rates avgs idx t) :=
  (recordOutputs_built (ok.toJ id) hash rates avgs idx t).step

theorem applyBatch_stepA (e : TxEntry) (rates avgs : Option TMap) (ha : ∀ t ∈ e.txs, Auth t.inAddr)
    (hlog : ∀ x, Step R (logExec x)) : Step R (applyBatch P h e rates avgs) :=
  (applyBatch_built (ok.toJ id) hlog e rates avgs ha).step

theorem recordPegRequests_step (rates avgs : TMap) (bs : List TxEntry) (bank : Nat) (bh : Int) :
    Step R (recordPegRequests P h rates avgs bs bank bh) :=
  (recordPegRequests_built (ok.toJ id) rates avgs bs bank bh).step

theorem applyTxEntry_stepA (keymr : String) (bo : Nat) (e : TxEntry)
    (ha : e.validAt P h = true → ∀ t ∈ e.txs, Auth t.inAddr) (hlog : ∀ x, Step R (logExec x))
    (hrec : ∀ bo e, Step R (recordHistory P h bo e))
    (hhold : ∀ keymr bo e, Step R (recordHistory P h bo e >>= fun _ => insertHolding { entry := e, height := h, keymr := keymr })) :
    Step R (applyTxEntry P h keymr bo e) :=
  (applyTxEntry_built (ok.toJ id) hlog (fun bo e => .leaf (hrec bo e)) (fun keymr bo e => .leaf (hhold keymr bo e)) keymr bo e ha).step

end

theorem histComps_of_prims {P : Params} {h : Nat} {R : Rel DB} {Auth : Addr → Prop} {AuthT : HistTx → Prop} {AuthH : Prop}
    (ok : PrimsOK P h R Auth AuthT AuthH) (hT : ∀ r, AuthT r) (hH : AuthH) : HistComps P h R :=
  have hb := compsB_of_prims (ok.toJ id) hT hH
  ⟨fun _ _ _ _ _ _ _ => (hb.zero ..).step, fun _ _ _ => (hb.snap ..).step, fun _ => (hb.dev ..).step, fun _ _ => (hb.hist ..).step,
   fun _ _ _ => (hb.hold ..).step, fun _ _ => (hb.fct ..).step, fun _ _ _ => (hb.opr ..).step, fun _ _ _ => (hb.spr ..).step⟩

/-- what the block at `b.height`, applied on the committed database `c`, is entitled to debit:
    the input address of every batch on the transaction chain or in holding that validates at
    this height (signature included), and the special addresses of the scheduled adjustments.
    Besides these authorisation facts it carries the two obligations of `blockTx_stepA` outside `PrimsOK`: `log`, `comps`. -/
structure AuthOK (P : Params) (R : Rel DB) (Auth : Addr → Prop) (c : DB) (b : Block) : Prop where
  log : ∀ x, Step R (logExec x)
  comps : HistComps P b.height R
  txs : ∀ es, b.txs = some es → ∀ e ∈ es, e.validAt P b.height = true → ∀ t ∈ e.txs, Auth t.inAddr
  held : ∀ row ∈ c.holding, row.entry.validAt P b.height = true → ∀ t ∈ row.entry.txs, Auth t.inAddr
  mint : b.height = P.act.v204Burn → Auth P.mintAddr
  burn : b.height = P.act.devRewards ∨ b.height = P.act.v202 →
    Auth (if b.height < P.act.v202 then P.oldBurnAddr else P.burnAddr)

section
variable {P : Params} {R : Rel DB} {Auth : Addr → Prop} {AuthT : HistTx → Prop} {AuthH : Prop} (c : DB) (b : Block) (avgs : TMap)
  (ok : PrimsOK P b.height R Auth AuthT AuthH) (au : AuthOK P R Auth c b)
include ok au

theorem blockTx_stepA : Step R (blockTx P c b avgs) :=
  .seq ((burnZeroing_built c b (ok.toJ id) au.comps.toB (fun hb => hb.step.swallow) au.burn).step)
    (.seq ((syncBlock_prims c b avgs (ok.toJ id) au.comps.toB au.log au.txs au.held au.mint).step) (ok.markSynced _))

end

/-! ### the unconditional versions (`Auth` = everything) -/

section
variable {P : Params} {h : Nat} {R : Rel DB} (ok : PrimsOK P h R)
include ok

theorem recordTx_step (hash : Hash) (rates avgs : Option TMap) (idx : Nat) (t : Tx) :
    Step R (recordTx P h hash rates avgs idx t) := (recordTx_built (ok.toJ id) hash rates avgs idx t trivial).step
theorem recordBatch_step (hash : Hash) (rates avgs : Option TMap) (txs : List Tx) :
    Step R (recordBatch P h hash rates avgs txs) := (recordBatch_built (ok.toJ id) hash rates avgs txs fun _ _ => trivial).step

variable (hlog : ∀ x, Step R (logExec x))
include hlog

theorem applyTxEntry_step (keymr : String) (bo : Nat) (e : TxEntry) : Step R (applyTxEntry P h keymr bo e) :=
  have hb := compsB_of_prims (ok.toJ id) (fun _ => trivial) trivial
  (applyTxEntry_built (ok.toJ id) hlog hb.hist hb.hold keymr bo e fun _ _ _ => trivial).step
theorem applyTransactionBlock_step (keymr : String) (es : List TxEntry) :
    Step R (applyTransactionBlock P h keymr es) :=
  Step.forEachIdx fun i e => applyTxEntry_step ok hlog keymr i e
theorem applyHeld_step (rates avgs : TMap) (e : TxEntry) : Step R (applyHeld P h rates avgs e) :=
  (applyHeld_built (ok.toJ id) hlog rates avgs e fun _ _ _ => trivial).step
theorem applyHolding_step (c : DB) (rates avgs : TMap) (fromH : Nat) :
    Step R (applyHolding P c h rates avgs fromH) :=
  (applyHolding_built (ok.toJ id) c rates avgs fromH fun row _ => .leaf (applyHeld_step ok hlog rates avgs row.entry)).step

end

section
variable {P : Params} {R : Rel DB} (c : DB) (b : Block) (avgs : TMap) (ok : PrimsOK P b.height R)
include ok

theorem compsB_std : CompsB P b.height (Step R) := compsB_of_prims (ok.toJ id) (fun _ => trivial) trivial
theorem oprRewardPhase_step : Step R (oprRewardPhase P b) := (oprRewardPhase_built b (compsB_std b ok)).step
theorem sprRewardPhase_step : Step R (sprRewardPhase P b) := (sprRewardPhase_built b (compsB_std b ok)).step
theorem devRewardPhase_step : Step R (devRewardPhase P b) := (devRewardPhase_built b (compsB_std b ok)).step

theorem burnZeroing_step : Step R (burnZeroing P c b) :=
  (burnZeroing_built c b (ok.toJ id) (compsB_std b ok) (fun hb => hb.step.swallow) fun _ => trivial).step

variable (hlog : ∀ x, Step R (logExec x))
include hlog

theorem holdingPhase_step (ra : Bool) : Step R (holdingPhase P c b avgs ra) :=
  (holdingPhase_built c b avgs (ok.toJ id) (fun rates row _ => .leaf (applyHeld_step ok hlog rates avgs row.entry)) ra).step
theorem txBlockPhase_step : Step R (txBlockPhase P b) :=
  (txBlockPhase_built b fun _ _ i e _ => .leaf (applyTxEntry_step ok hlog _ i e)).step
theorem txPhase_step (ra : Bool) : Step R (txPhase P c b avgs ra) :=
  (txPhase_built c b avgs (ok.toJ id) (compsB_std b ok) (fun rates row _ => .leaf (applyHeld_step ok hlog rates avgs row.entry))
    (fun _ _ i e _ => .leaf (applyTxEntry_step ok hlog _ i e)) ra).step
theorem blockTx_step : Step R (blockTx P c b avgs) :=
  .seq (burnZeroing_step c b ok) (.seq (syncBlock_prims c b avgs (ok.toJ id) (compsB_std b ok) hlog (fun _ _ _ _ _ _ _ => trivial) (fun _ _ _ _ _ => trivial) fun _ => trivial).step (ok.markSynced _))

end

end Pegnet

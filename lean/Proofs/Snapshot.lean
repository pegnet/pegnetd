import Proofs.Staking
/-
  C14: a staking payout rotates the snapshot tables — the balance table as it was on entry becomes the
  current snapshot, the current one the past — and paying the stakes touches neither.
-/
namespace Pegnet

theorem payStakes_keeps_snaps (P : Params) (h : Nat) (ts : Int) (list : List (Addr × Nat)) :
    Step (keepRel fun db : DB => (db.snapCur, db.snapPast)) (payStakes P h ts list) := by
  unfold payStakes
  refine Step.ite ?_ (Step.pure _)
  refine Step.bind (Step.guarded fun _ => rfl) fun _ => Step.bind ?_ fun _ => Step.forEach fun _ => Step.guarded fun _ => rfl
  refine Step.forEach fun _ => Step.bind (Step.guarded fun _ => rfl) fun _ => Step.guarded fun s => ?_
  simp only [keepRel]
  split <;> rfl

theorem snapshotPayouts_rotates {P : Params} {h : Nat} {ts : Int} {rates : TMap} {order : List Addr} {s s' : DB}
    (hr : snapshotPayouts P h ts rates order s = .ok () s') :
    s'.snapCur = s.addrs ∧ s'.snapPast = s.snapCur := by
  obtain ⟨_, _, hp⟩ := snapshotPayouts_ok hr
  have hk := (payStakes_keeps_snaps P h ts _).ok hp
  simp only [keepRel, Prod.mk.injEq] at hk
  exact hk

end Pegnet

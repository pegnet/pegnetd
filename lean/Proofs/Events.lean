import Proofs.Effect
import Proofs.Arith
import Proofs.Validate
/-
  C04, C11: the exact effect of one executed transaction, of a transfer in particular, and of the mining
  and staking-record rewards, on EVERY address and asset.
-/
namespace Pegnet

theorem debit_outcome_all (a : Addr) (t : Ticker) (v : Nat) (s : DB) (hrow : (findRow s.addrs a).isSome = true) :
    Outcome (debit a t v s) (fun _ s' => ∀ a' x, s'.bal a' x = s.bal a' x - (if a' = a ∧ x = t then (v : Int) else 0)) := by
  unfold debit
  fun_cases M.guarded _ _ s
  case case1 e hg =>
    split at hg
    · cases hg
      exact notShort_sqlError _
    · cases hg
  case case2 =>
    exact fun a' x => (bal_updRow_add s a a' t x _ hrow).trans (congrArg (s.bal a' x + ·) (cell_neg a t v (a', x)))

theorem subBal_funded_all (P : Params) (a : Addr) (t : Ticker) (v : Nat) (s : DB) (hf : (v : Int) ≤ s.bal a t) :
    Outcome (subBal P a t v s) (fun b s' => b = true ∧ ∀ i, balAt s' i = balAt s i + cell a t (-(v : Int)) i) := by
  cases hr : subBal P a t v s with
  | fail e s' =>
    obtain ⟨_, w, rfl⟩ := subBal_fail hr
    exact notShort_sqlError w
  | ok b s' =>
    cases b with
    | false =>
      rcases subBal_ok hr with ⟨_, _, _, hlt⟩ | ⟨hb, _⟩ | ⟨hb, _⟩
      · omega
      · cases hb
      · cases hb
    | true => exact ⟨rfl, (balLedger.subBal trivial hr).2⟩

section ledger
variable {ι : Type} {I : DB → Prop} {obs : DB → ι → Int} {credit : Addr → Ticker → Int → ι → Int} (L : Ledger I obs credit)
include L

theorem creditRound_adds (P : Params) (h : Nat) (hash : Hash) (idx : Nat) (ty : Ticker) (tr : Transfer) :
    Adds I obs (if tr.addr == burnAddrAt P h then (pure () : LM Unit) else do
          addBal P tr.addr ty tr.amount
          insertRelation hash tr.addr idx true false)
      (fun i => if tr.addr == burnAddrAt P h then 0 else credit tr.addr ty (tr.amount : Nat) i) := by
  by_cases hb : (tr.addr == burnAddrAt P h) = true
  · simp only [if_pos hb]
    exact Adds.pure ()
  · simp only [if_neg hb]
    exact (L.addBal P tr.addr ty tr.amount).then_keep fun _ => L.insertRelation _ _ _ _ _

end ledger

/-- what the output side of an executed transaction adds, in terms of a ledger's credits: nothing
    for a bank-era PEG request (the bank pass pays it), the converted amount for a conversion, the
    outputs not addressed to the burn address for a transfer -/
def outEffect {ι} (credit : Addr → Ticker → Int → ι → Int) (P : Params) (h : Nat) (rates avgs : Option TMap) (t : Tx) (i : ι) : Int :=
  if h ≥ P.act.convLimit ∧ t.isPEGRequest = true then 0
  else if t.isConversion P = true then
    match convOf P h rates avgs t with
    | some out => credit t.inAddr t.conversion out i
    | none => 0
  else (t.transfers.map fun tr => if tr.addr == burnAddrAt P h then 0 else credit tr.addr t.inType (tr.amount : Nat) i).sum

theorem recordOutputs_adds {ι : Type} {I : DB → Prop} {obs : DB → ι → Int} {credit : Addr → Ticker → Int → ι → Int}
    (L : Ledger I obs credit) (P : Params) (h : Nat) (hash : Hash) (rates avgs : Option TMap) (idx : Nat) (t : Tx) :
    Adds I obs (recordOutputs P h hash rates avgs idx t) (outEffect credit P h rates avgs t) := by
  fun_cases recordOutputs P h hash rates avgs idx t
  case case1 => exact Adds.throw (notShort_uncaught (by simp)) _
  case case2 hpeg _ _ => exact (Adds.pure ()).congr fun _ => (if_pos hpeg).symm
  case case3 => exact Adds.throw (notShort_uncaught (by simp)) _
  case case4 hpeg hcv out hconv =>
    refine ((L.setConvertedAmount _ _ _).keep_then fun _ => L.addBal P t.inAddr t.conversion out.toNat).congr fun i => ?_
    rw [Int.toNat_of_nonneg (convert_nonneg hconv), outEffect, if_neg hpeg, if_pos hcv, show convOf P h rates avgs t = some out from hconv]
  case case5 hpeg hcv =>
    exact (Adds.forEach (creditRound_adds L P h hash idx t.inType) t.transfers).congr fun _ => by
      rw [outEffect, if_neg hpeg, if_neg hcv]

theorem Ledger.recordTx_ok {ι : Type} {I : DB → Prop} {obs : DB → ι → Int} {credit : Addr → Ticker → Int → ι → Int}
    (L : Ledger I obs credit) {P : Params} {h : Nat} {hash : Hash} {rates avgs : Option TMap} {idx : Nat} {t : Tx} {s s' : DB}
    (hs : I s) (hr : recordTx P h hash rates avgs idx t s = .ok () s') :
    I s' ∧ ∀ i, obs s' i = obs s i + credit t.inAddr t.inType (-(t.inAmount : Int)) i + outEffect credit P h rates avgs t i := by
  unfold recordTx at hr
  obtain ⟨b, s1, h1, h2⟩ := M.bind_ok hr
  cases b with
  | false => cases h2
  | true =>
    obtain ⟨hs1, e1⟩ := L.subBal hs h1
    obtain ⟨hs', e2⟩ := ((L.insertRelation hash t.inAddr idx false (t.isConversion P)).keep_then fun _ =>
      (L.setExecuted hash h).keep_then fun _ => recordOutputs_adds L P h hash rates avgs idx t).of_ok hs1 h2
    exact ⟨hs', fun i => by rw [e2 i, e1 i]⟩

theorem outEffect_transfer {ι} (credit : Addr → Ticker → Int → ι → Int) (P : Params) (h : Nat) (rates avgs : Option TMap) (t : Tx)
    (htr : t.transfers ≠ []) (i : ι) :
    outEffect credit P h rates avgs t i =
      (t.transfers.map fun tr => if tr.addr == burnAddrAt P h then 0 else credit tr.addr t.inType (tr.amount : Nat) i).sum := by
  obtain ⟨h1, h2⟩ := not_conversion_of_transfers (P := P) htr
  unfold outEffect
  rw [if_neg (by rw [h2]; exact fun h => Bool.noConfusion h.2), if_neg (by rw [h1]; exact Bool.noConfusion)]

/-- what a transfer credits to address `a` in its own asset: the outputs naming `a`, except that
    outputs to the burn address are not credited -/
def creditedTo (P : Params) (h : Nat) (a : Addr) (trs : List Transfer) : Int :=
  if a = burnAddrAt P h then 0 else backTo a trs

theorem credited_sum (P : Params) (h : Nat) (ty : Ticker) (trs : List Transfer) (a : Addr) (x : Ticker) :
    (trs.map fun tr => if tr.addr == burnAddrAt P h then 0 else cell tr.addr ty (tr.amount : Nat) (a, x)).sum =
      if x = ty then creditedTo P h a trs else 0 := by
  unfold creditedTo backTo
  rw [← List.sum_map_ite]
  by_cases hx : x = ty
  · by_cases ha : a = burnAddrAt P h
    · subst ha
      rw [if_pos hx, if_pos rfl]
      refine Eq.trans (congrArg List.sum (List.map_congr_left fun tr _ => ?_)) (List.sum_map_zero trs)
      by_cases hb : tr.addr = burnAddrAt P h
      · simp [hb]
      · simp [cell, hb, Ne.symm hb]
    · rw [if_pos hx, if_neg ha]
      refine congrArg List.sum (List.map_congr_left fun tr _ => ?_)
      by_cases hta : tr.addr = a
      · subst hta; simp [cell, ha, hx]
      · simp [cell, hta, Ne.symm hta]
  · rw [if_neg hx]
    refine Eq.trans (congrArg List.sum (List.map_congr_left fun tr _ => ?_)) (List.sum_map_zero trs)
    simp [cell, hx]

theorem creditLoop_burn (P : Params) (h : Nat) (hash : Hash) (idx : Nat) (ty : Ticker) (trs : List Transfer) (s : DB) :
    Outcome (M.forEach trs (fun tr =>
        if tr.addr == burnAddrAt P h then (pure () : LM Unit) else do
          addBal P tr.addr ty tr.amount
          insertRelation hash tr.addr idx true false) s)
      (fun _ s' => ∀ x, s'.bal (burnAddrAt P h) x = s.bal (burnAddrAt P h) x) :=
  Outcome.mono (Moves.outcome (Adds.forEach (creditRound_adds balLedger P h hash idx ty) trs) s (credited_sum P h ty trs))
    fun _ _ hh x => by rw [hh (burnAddrAt P h) x]; simp [creditedTo]

/-- `Ledger.recordTx_ok` for balances, on every run from a covered input: a failure is not "insufficient balance" -/
theorem recordTx_outcome (P : Params) (h : Nat) (hash : Hash) (rates avgs : Option TMap) (idx : Nat) (t : Tx)
    (s : DB) (hf : (t.inAmount : Int) ≤ s.bal t.inAddr t.inType) :
    Outcome (recordTx P h hash rates avgs idx t s)
      (fun _ s' => ∀ i, balAt s' i = balAt s i + cell t.inAddr t.inType (-(t.inAmount : Int)) i + outEffect cell P h rates avgs t i) := by
  unfold recordTx
  refine Outcome.bind (subBal_funded_all P t.inAddr t.inType t.inAmount s hf) fun ok s1 ⟨hok, h1⟩ => ?_
  subst hok
  exact Outcome.mono (((balLedger.insertRelation hash t.inAddr idx false (t.isConversion P)).keep_then fun _ =>
    (balLedger.setExecuted hash h).keep_then fun _ => recordOutputs_adds balLedger P h hash rates avgs idx t).run s1 trivial)
    fun _ _ h4 i => by rw [h4.2 i, h1 i]

/-- **An executed transfer, exactly.** For EVERY address `a` and asset `x`: the balance after the
    transfer is the balance before, minus the input amount if `a` is the sender and `x` the asset,
    plus the outputs naming `a` (in that asset; outputs to the burn address are not credited).
    Nobody else's balance changes, and no other asset's. -/
theorem transfer_exact (P : Params) (h : Nat) (hash : Hash) (rates avgs : Option TMap) (idx : Nat) (t : Tx)
    (htr : t.transfers ≠ []) (s : DB) (hf : (t.inAmount : Int) ≤ s.bal t.inAddr t.inType) :
    Outcome (recordTx P h hash rates avgs idx t s)
      (fun _ s' => ∀ a x, s'.bal a x = s.bal a x
        - (if a = t.inAddr ∧ x = t.inType then (t.inAmount : Int) else 0)
        + (if x = t.inType then creditedTo P h a t.transfers else 0)) :=
  Outcome.mono (recordTx_outcome P h hash rates avgs idx t s hf) fun _ _ hh a x => by
    rw [← credited_sum, ← outEffect_transfer cell P h rates avgs t htr]
    exact (hh (a, x)).trans (by rw [cell_neg]; rfl)

theorem guarded_keeps_bal {g : DB → Option Failure} {u : DB → DB} (hg : ∀ s e, g s = some e → NotShort e)
    (hu : ∀ s, (u s).addrs = s.addrs) (s : DB) :
    Outcome (M.guarded g u s) (fun _ s' => ∀ a x, s'.bal a x = s.bal a x) :=
  Outcome.mono ((balLedger.keep hg hu).run s trivial) fun _ _ hh a x => (hh.2 (a, x)).trans (Int.add_zero _)

theorem rewardRound_adds {ι : Type} {I : DB → Prop} {obs : DB → ι → Int} {credit : Addr → Ticker → Int → ι → Int}
    (L : Ledger I obs credit) (P : Params) (oh ts : Int) (addr : Option Addr) (payout : Int) (hash : Hash) :
    Adds I obs (match addr with
        | none => (pure () : LM Unit)
        | some a => do
          addBal P a tPEG payout.toNat
          insertHistBatch { hash := hash, height := oh, blockorder := 0, ts := ts, executed := oh }
          insertHistTx { hash := hash, txIndex := 0, action := 3, fromAddr := a, fromAsset := "", fromAmount := 0,
                         toAsset := "PEG", toAmount := payout, outputs := "" }
          insertLookup { hash := hash, txIndex := 0, addr := a })
      (fun i => match addr with | none => 0 | some a => credit a tPEG (payout.toNat : Nat) i) := by
  cases addr with
  | none => exact Adds.pure ()
  | some a => exact L.creditWithHistory P a tPEG payout.toNat _ _ _

theorem credit_sum {κ} (addr : κ → Option Addr) (v : κ → Int) (l : List κ) (a : Addr) (x : Ticker) :
    (l.map fun w => match addr w with | none => 0 | some b => cell b tPEG (v w) (a, x)).sum =
      if x = tPEG then ((l.filter fun w => addr w == some a).map v).sum else 0 := by
  by_cases hx : x = tPEG
  · rw [if_pos hx, ← List.sum_map_ite]
    refine congrArg List.sum (List.map_congr_left fun w _ => ?_)
    cases addr w with
    | none => rfl
    | some b =>
      by_cases hb : b = a
      · simp [cell, hx, hb]
      · simp [cell, hx, hb, Ne.symm hb]
  · rw [if_neg hx]
    refine Eq.trans (congrArg List.sum (List.map_congr_left fun w _ => ?_)) (List.sum_map_zero l)
    cases addr w with
    | none => rfl
    | some b => simp [cell, hx]

/-- what a list of winning records credits to `a`: the payouts of the records whose payout
    address parses to `a` -/
def oprCredit (a : Addr) (ws : List OprW) : Int :=
  ((ws.filter (fun w => w.addr == some a)).map (fun w => ((w.payout.toNat : Nat) : Int))).sum

/-- **Mining rewards, exactly.** Applying a graded OPR block changes, for every address and
    asset, only the PEG balance of the payout addresses named in the winning records, by exactly
    their payouts; a record whose address does not parse pays nothing. -/
theorem oprRewards_exact (P : Params) (oh ts : Int) (ws : List OprW) (s : DB) :
    Outcome (applyGradedOPR P oh ts ws s)
      (fun _ s' => ∀ a x, s'.bal a x = s.bal a x + (if x = tPEG then oprCredit a ws else 0)) :=
  Moves.outcome (Adds.forEach (fun (w : OprW) => rewardRound_adds balLedger P oh ts w.addr w.payout w.entryhash) ws) s
    (credit_sum (·.addr) (fun w => ((w.payout.toNat : Nat) : Int)) ws)

/-- what a list of winning staking records credits to `a`: the payouts of the records whose payout
    address parses to `a` -/
def sprCredit (a : Addr) (ws : List SprW) : Int :=
  ((ws.filter (fun w => w.addr == some a)).map (fun w => ((w.payout.toNat : Nat) : Int))).sum

/-- **Staking-record rewards, exactly.** Applying a graded SPR block changes, for every address and
    asset, only the PEG balance of the payout addresses named in the winning records, by exactly
    their payouts; a record whose address does not parse pays nothing. -/
theorem sprRewards_exact (P : Params) (oh ts : Int) (ws : List SprW) (s : DB) :
    Outcome (applyGradedSPR P oh ts ws s)
      (fun _ s' => ∀ a x, s'.bal a x = s.bal a x + (if x = tPEG then sprCredit a ws else 0)) :=
  Moves.outcome (Adds.forEach (fun (w : SprW) => rewardRound_adds balLedger P oh ts w.addr w.payout w.entryhash) ws) s
    (credit_sum (·.addr) (fun w => ((w.payout.toNat : Nat) : Int)) ws)

end Pegnet

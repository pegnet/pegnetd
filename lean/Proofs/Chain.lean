import Proofs.Relations
import Pegnet.Chain
/-
  One iteration of the sync loop as an equation (`applyBlock_eq`) with its corollaries, and the lifting of
  per-block relations to `applyBlock` and to whole chains; lifted here: the rate rows of another height
  (C12, and the cache invariant of Proofs/RestartAvg) and the balance-table invariant (C03).
-/
namespace Pegnet

/-- the averages one iteration prices block `b` with: `GetPegNetRateAverages` on the committed database, from
    the node's cache, at the last rated height before the block -/
def pricingAvgs (P : Params) (n : Node) (b : Block) : TMap :=
  (getAverages P { n.db with avgTouched := false } n.cache
    (({ n.db with avgTouched := false } : DB).mostRecentRatesBefore b.height).2).2

/-- the cache after `GetPegNetRateAverages` ran for block `b` -/
def touchCache (P : Params) (n : Node) (b : Block) : AvgCache :=
  (getAverages P { n.db with avgTouched := false } n.cache
    (({ n.db with avgTouched := false } : DB).mostRecentRatesBefore b.height).2).1

theorem applyBlock_eq (P : Params) (n : Node) (b : Block) :
    applyBlock P n b =
      match blockTx P { n.db with avgTouched := false } b (pricingAvgs P n b) { n.db with avgTouched := false } with
      | .ok _ s' => ({ db := { s' with avgTouched := false }, mem := b.height,
                       cache := if s'.avgTouched then touchCache P n b else n.cache }, none)
      | .fail e s' => ({ n with cache := if s'.avgTouched then touchCache P n b else n.cache }, some e) := rfl

theorem applyBlock_cases (P : Params) (n : Node) (b : Block) :
    (∃ e, (applyBlock P n b).2 = some e ∧ (applyBlock P n b).1.db = n.db ∧ (applyBlock P n b).1.mem = n.mem) ∨
    ∃ s' avgs, blockTx P { n.db with avgTouched := false } b avgs { n.db with avgTouched := false } = .ok () s' ∧
      (applyBlock P n b).1.db = { s' with avgTouched := false } ∧ (applyBlock P n b).2 = none ∧
      (applyBlock P n b).1.mem = b.height := by
  rw [applyBlock_eq]
  cases hs : blockTx P _ b _ _ with
  | ok _ s' => exact Or.inr ⟨s', _, hs, rfl, rfl, rfl⟩
  | fail e _ => exact Or.inl ⟨e, rfl, rfl, rfl⟩

theorem applyBlock_failed {P : Params} {n : Node} {b : Block} {e : Failure} (hf : (applyBlock P n b).2 = some e) :
    (applyBlock P n b).1.db = n.db := by
  rcases applyBlock_cases P n b with ⟨_, _, h, _⟩ | ⟨_, _, _, _, hnone, _⟩
  · exact h
  · rw [hnone] at hf; cases hf

theorem applyBlock_mem (P : Params) (n : Node) (b : Block) :
    (applyBlock P n b).1.mem = if (applyBlock P n b).2 = none then b.height else n.mem := by
  rcases applyBlock_cases P n b with ⟨e, he, _, hm⟩ | ⟨_, _, _, _, hn, hm⟩
  · rw [he, hm]; rfl
  · rw [hn, hm]; rfl

theorem applyBlock_cache (P : Params) (n : Node) (b : Block) :
    (applyBlock P n b).1.cache = n.cache ∨ (applyBlock P n b).1.cache = touchCache P n b := by
  have key : ∀ t : Bool, (if t = true then touchCache P n b else n.cache) = n.cache ∨
      (if t = true then touchCache P n b else n.cache) = touchCache P n b := fun t => by
    cases t
    · exact .inl rfl
    · exact .inr rfl
  rw [applyBlock_eq]
  cases blockTx P _ b _ _ with
  | ok _ s' => exact key s'.avgTouched
  | fail _ s' => exact key s'.avgTouched

theorem applyBlock_congr {P : Params} {n₁ n₂ : Node} {b : Block} (hdb : n₁.db = n₂.db)
    (hav : ∀ c, blockTx P c b (pricingAvgs P n₁ b) = blockTx P c b (pricingAvgs P n₂ b)) :
    (applyBlock P n₁ b).1.db = (applyBlock P n₂ b).1.db ∧ (applyBlock P n₁ b).2 = (applyBlock P n₂ b).2 := by
  rw [applyBlock_eq, applyBlock_eq, hav, hdb]
  cases blockTx P _ b _ _ with
  | ok _ _ => exact ⟨rfl, rfl⟩
  | fail _ _ => exact ⟨rfl, rfl⟩

structure FlagBlind (R : Rel DB) : Prop where
  set : ∀ s b, R.r s { s with avgTouched := b }

/-!
  Only a block transaction that succeeds is committed, so a relation has to be respected by the
  SUCCESSFUL runs of `blockTx` only (`StepOk`); `Step R (blockTx …)` gives more than is needed. -/

theorem applyBlock_rel_ok {P : Params} {R : Rel DB} (fb : FlagBlind R) (n : Node) (b : Block)
    (hblk : ∀ c avgs, StepOk R (blockTx P c b avgs)) : R.r n.db (applyBlock P n b).1.db := by
  rcases applyBlock_cases P n b with ⟨_, _, h, _⟩ | ⟨s', avgs, hs, hdb, _⟩
  · rw [h]; exact R.refl _
  · rw [hdb]
    exact R.trans _ _ _ (fb.set n.db false) (R.trans _ _ _ ((hblk _ _).ok _ _ _ hs) (fb.set s' false))

theorem runBlocks_rel_ok {P : Params} {R : Rel DB} (fb : FlagBlind R) (chain : List Block)
    (hblk : ∀ b ∈ chain, ∀ c avgs, StepOk R (blockTx P c b avgs)) (n : Node) :
    R.r n.db (runBlocks P n chain).db := by
  induction chain generalizing n with
  | nil => exact R.refl _
  | cons b bs ih =>
    exact R.trans _ _ _ (applyBlock_rel_ok fb n b (hblk b List.mem_cons_self))
      (ih (fun b' hb' => hblk b' (List.mem_cons_of_mem _ hb')) _)

theorem runBlocks_rel {P : Params} (R : Rel DB) (fb : FlagBlind R)
    (ok : ∀ b : Block, PrimsOK P b.height R) (hlog : ∀ x, Step R (logExec x)) (n : Node) (chain : List Block) :
    R.r n.db (runBlocks P n chain).db :=
  runBlocks_rel_ok fb chain (fun b _ c avgs => .of_step (blockTx_step c b avgs (ok b) hlog)) n

theorem runBlocks_decrease {P : Params} (f : DB → Int) (chain : List Block) (n : Node) (hdec : f (runBlocks P n chain).db < f n.db) :
    ∃ pre b post, chain = pre ++ b :: post ∧ f (applyBlock P (runBlocks P n pre) b).1.db < f (runBlocks P n pre).db := by
  induction chain generalizing n with
  | nil => exact absurd hdec (Int.lt_irrefl _)
  | cons b bs ih =>
    by_cases h1 : f (applyBlock P n b).1.db < f n.db
    · exact ⟨[], b, bs, rfl, h1⟩
    · obtain ⟨pre, b', post, hch, hd⟩ := ih (applyBlock P n b).1 (Int.lt_of_lt_of_le hdec (Int.not_lt.1 h1))
      exact ⟨b :: pre, b', post, by rw [hch]; rfl, hd⟩

theorem blockTx_ratesAt {P : Params} {b : Block} {g : Nat} (hg : g ≠ b.height) (c : DB) (avgs : TMap) :
    StepOk (ratesFrozen g) (blockTx P c b avgs) :=
  .of_step (blockTx_step c b avgs (primsOK_ratesFrozen P hg) fun _ => Step.guarded fun _ => rfl)

theorem applyBlock_ratesAt (P : Params) (n : Node) (b : Block) (g : Nat) (hg : g ≠ b.height) :
    (applyBlock P n b).1.db.ratesAt g = n.db.ratesAt g :=
  applyBlock_rel_ok ⟨fun _ _ => rfl⟩ n b (blockTx_ratesAt hg)

theorem runBlocks_addrsOK (P : Params) (n : Node) (chain : List Block) (h : AddrsOK n.db) :
    AddrsOK (runBlocks P n chain).db :=
  runBlocks_rel (P := P) (invRel AddrsOK) ⟨fun _ _ h => h⟩ (fun b => primsOK_addrsOK P b.height)
    (fun _ => Step.guarded (fun _ h => h)) n chain h

end Pegnet

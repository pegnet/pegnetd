import Proofs.Chain
/-
  What the block transaction reads of the rolling averages: from PIP-10 on, what they answer per
  ticker (`TMap.get`); before PIP-10, nothing (`Convert` ignores them). `AvgAgree` says two average
  maps cannot be told apart in that sense, and the block transaction is the same function of both
  (`blockTx_agree`). Two corollaries are used: below PIP-10 any two maps will do (`blockTx_avgs`:
  restarts, crashes and failed attempts are invisible there, C02 C09, since the only state a
  process keeps outside the database is the averaging cache), and at every height two maps that
  answer every ticker alike will do (`blockTx_get`: two caches holding the same *series* stand for
  each other, Proofs/RestartAvg, C09).
-/
namespace Pegnet

theorem convert_agree {pip10 h : Nat} {A₁ A₂ : Ticker → Nat} (hg : pip10 ≤ h → ∀ t, A₁ t = A₂ t)
    (amt : Int) (fr tr : Nat) (x y : Ticker) :
    convert pip10 h amt fr (A₁ x) tr (A₁ y) = convert pip10 h amt fr (A₂ x) tr (A₂ y) := by
  by_cases hh : pip10 ≤ h
  · rw [hg hh x, hg hh y]
  · have e : ¬ h ≥ pip10 := hh
    simp only [convert, e, false_and, if_false]

section
variable {P : Params} {h : Nat} {a₁ a₂ : Option TMap}
  (hg : P.act.pip10 ≤ h → ∀ t, (a₁.getD []).get t = (a₂.getD []).get t)
include hg

theorem pass1_agree (bal : Ticker → Int) (rates : Option TMap) (txs : List Tx) :
    pass1 P h bal rates a₁ txs = pass1 P h bal rates a₂ txs := by
  have : pass1Tx P h bal rates a₁ = pass1Tx P h bal rates a₂ := by
    funext t; unfold pass1Tx; simp only [convert_agree hg]
  rw [pass1_eq_findSome?, pass1_eq_findSome?, this]

theorem pass2_agree (rates : Option TMap) (bal : Ticker → Int) (txs : List Tx) :
    pass2 P h rates a₁ bal txs = pass2 P h rates a₂ bal txs := by
  induction txs generalizing bal with
  | nil => rfl
  | cons t rest ih =>
    unfold pass2
    simp only [convert_agree hg, ih]

theorem verdict_agree (db : DB) (rates : Option TMap) (txs : List Tx) :
    verdict P db h rates a₁ txs = verdict P db h rates a₂ txs := by
  unfold verdict
  cases txs with
  | nil => rfl
  | cons t rest => simp only [pass1_agree hg _ rates, pass2_agree hg rates]

theorem recordBatch_agree (hash : Hash) (rates : Option TMap) (txs : List Tx) :
    recordBatch P h hash rates a₁ txs = recordBatch P h hash rates a₂ txs := by
  have : recordTx P h hash rates a₁ = recordTx P h hash rates a₂ := by
    funext idx t; unfold recordTx recordOutputs; simp only [convert_agree hg]
  unfold recordBatch
  rw [this]

theorem applyBatch_agree (e : TxEntry) (rates : Option TMap) :
    applyBatch P h e rates a₁ = applyBatch P h e rates a₂ := by
  unfold applyBatch
  simp only [verdict_agree hg _ rates, recordBatch_agree hg e.hash rates]

end

def AvgAgree (P : Params) (h : Nat) (a₁ a₂ : TMap) : Prop := P.act.pip10 ≤ h → ∀ t, a₁.get t = a₂.get t

theorem applyHolding_agree {P : Params} {h : Nat} {a₁ a₂ : TMap} (hg : AvgAgree P h a₁ a₂) (c : DB) (rates : TMap) (fromH : Nat) :
    applyHolding P c h rates a₁ fromH = applyHolding P c h rates a₂ fromH := by
  unfold applyHolding
  have e1 : applyHeld P h rates a₁ = applyHeld P h rates a₂ := by
    funext e; unfold applyHeld
    simp only [applyBatch_agree (a₁ := some a₁) (a₂ := some a₂) hg e (some rates)]
  have e2 : recordPegRequests P h rates a₁ = recordPegRequests P h rates a₂ := by
    funext bs bank bh; unfold recordPegRequests pegRequests convertD; simp only [convert_agree hg]
  rw [e1, e2]

theorem blockTx_agree {P : Params} (c : DB) (b : Block) (a₁ a₂ : TMap) (hg : AvgAgree P b.height a₁ a₂) :
    blockTx P c b a₁ = blockTx P c b a₂ := by
  unfold blockTx syncBlock txPhase holdingPhase
  simp only [applyHolding_agree hg c]

theorem blockTx_avgs {P : Params} (c : DB) (b : Block) (a₁ a₂ : TMap) (hlt : b.height < P.act.pip10) :
    blockTx P c b a₁ = blockTx P c b a₂ :=
  blockTx_agree c b a₁ a₂ fun hge => absurd hge (Nat.not_le_of_gt hlt)

theorem blockTx_get {P : Params} (c : DB) (b : Block) (a₁ a₂ : TMap) (hg : ∀ t, a₁.get t = a₂.get t) :
    blockTx P c b a₁ = blockTx P c b a₂ :=
  blockTx_agree c b a₁ a₂ fun _ => hg

end Pegnet

import Pegnet.VersionLock
import Proofs.ListFold
/-
  `CheckHardForks`: the two SQL aggregates `COALESCE(MIN(version), -1)` / `COALESCE(MAX(version), -1)`
  read as statements about the rows (the fold facts are in Proofs/ListFold.lean), and the back-fill as
  an induction over the rows it appends (`backfill_ind`).
-/
namespace Pegnet

theorem minVersionFrom_lt_iff (rows : VRows) (h : Nat) (v : Int) :
    minVersionFrom rows h < v ↔
      (∃ r ∈ rows, r.1 ≥ h ∧ r.2 < v) ∨ ((∀ r ∈ rows, r.1 < h) ∧ -1 < v) := by
  have key : minVersionFrom rows h < v ↔
      (∃ r ∈ rows.filter (fun r => r.1 ≥ h), r.2 < v) ∨ (rows.filter (fun r => r.1 ≥ h) = [] ∧ -1 < v) := by
    unfold minVersionFrom
    cases rows.filter (fun r => r.1 ≥ h) with
    | nil => simp
    | cons x xs =>
      dsimp only
      rw [List.foldl_min_key_lt_iff]
      simp only [reduceCtorEq, false_and, or_false]
  simp only [key, List.mem_filter, List.filter_eq_nil_iff, decide_eq_true_eq, Nat.not_le, and_assoc]

theorem maxVersionFrom_zero_gt_iff (rows : VRows) (cur : Int) :
    cur < maxVersionFrom rows 0 ↔ (∃ r ∈ rows, cur < r.2) ∨ (rows = [] ∧ cur < -1) := by
  unfold maxVersionFrom
  rw [List.filter_eq_self.2 (fun r _ => decide_eq_true (Nat.zero_le r.1))]
  cases rows with
  | nil => simp
  | cons x xs =>
    dsimp only
    rw [List.lt_foldl_max_key_iff]
    simp only [reduceCtorEq, false_and, or_false]

theorem highestSynced_attained {rows : VRows} (hne : rows ≠ []) : ∃ r ∈ rows, r.1 = highestSynced rows := by
  unfold highestSynced
  rw [← List.foldl_map (g := max)]
  exact List.mem_map.1 (List.foldl_max_zero_mem (mt List.map_eq_nil_iff.1 hne))

/-- Start-up is not refused when every row carries a version adequate for the forks at or below
    its height and none newer than the starting build. A fork the database has reached has a row
    at or above its height: the highest row. -/
theorem checkHardForks_accepts (forks : List (Nat × Int)) (cur : Int) (synced : Option Nat) (rows : VRows)
    (hne : backfill forks synced rows ≠ [])
    (hfork : ∀ f ∈ forks, ∀ r ∈ backfill forks synced rows, r.1 ≥ f.1 → f.2 ≤ r.2)
    (hcur : ∀ r ∈ backfill forks synced rows, r.2 ≤ cur) :
    (checkHardForks forks cur synced rows).2 = false := by
  unfold checkHardForks
  dsimp only
  rw [Bool.or_eq_false_iff, List.any_eq_false, decide_eq_false_iff_not, maxVersionFrom_zero_gt_iff]
  refine ⟨fun f hf hbad => ?_, fun h => ?_⟩
  · rw [Bool.and_eq_true, decide_eq_true_eq, decide_eq_true_eq, minVersionFrom_lt_iff] at hbad
    obtain ⟨htop, ⟨r, hr, hge, hlt⟩ | ⟨hall, _⟩⟩ := hbad
    · exact Int.not_lt.2 (hfork f hf r hr hge) hlt
    · obtain ⟨r, hr, e⟩ := highestSynced_attained hne
      exact Nat.not_lt.2 (e ▸ htop) (hall r hr)
  · rcases h with ⟨r, hr, hv⟩ | ⟨he, _⟩
    · exact Int.not_lt.2 (hcur r hr) hv
    · exact hne he

theorem not_any_key {rows : VRows} {h : Nat} (hany : ¬ rows.any (·.1 == h) = true) : ∀ r ∈ rows, r.1 ≠ h :=
  fun r hr he => hany (List.any_eq_true.2 ⟨r, hr, beq_iff_eq.2 he⟩)

/-- `height` is the PRIMARY KEY of pn_sync_version -/
theorem nodup_keys_snoc {rows : VRows} {r : Nat × Int} (hn : (rows.map (·.1)).Nodup)
    (hnew : ∀ x ∈ rows, x.1 ≠ r.1) : ((rows ++ [r]).map (·.1)).Nodup := by
  rw [List.map_append]
  refine hn.concat fun hm => ?_
  obtain ⟨x, hx, e⟩ := List.mem_map.1 hm
  exact hnew x hx e

theorem backfill_ind {I : VRows → Prop} {forks : List (Nat × Int)} {synced : Option Nat} {rows : VRows} (h0 : I rows)
    (hstep : ∀ s r k, synced = some s → k ≤ s → (∀ x ∈ r, x.1 ≠ k) → I r → I (r ++ [(k, -1)])) :
    I (backfill forks synced rows) := by
  fun_cases backfill forks synced rows
  case case1 => exact h0
  case case2 s _ =>
    refine List.foldlRecOn forks _ h0 fun r hr f _ => ?_
    split
    case isTrue hf =>
      fun_cases markIgnoringConflict r f.1 (-1)
      case case1 => exact hr
      case case2 hany => exact hstep s r f.1 rfl hf (not_any_key hany) hr
    case isFalse => exact hr
  case case3 => exact h0

end Pegnet

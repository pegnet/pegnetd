import Proofs.LivenessHeld
import Proofs.Bank
/-
  C16 (liveness of the bank pass): it never fails on conversions with distinct keys.
-/
namespace Pegnet

/-- `Safe` that also leaves the bank table alone (`SafeB.of_safe`) -/
def SafeB {α} (m : LM α) : Prop := ∀ s, ∃ a s', m s = .ok a s' ∧ s'.bank = s.bank

namespace SafeB
variable {α : Type}

theorem of_safe {m : LM α} (hs : Safe m) (hk : Step (keepRel (·.bank)) m) : SafeB m := fun s =>
  have ⟨a, s', e⟩ := hs s
  ⟨a, s', e, hk.ok e⟩

theorem guarded {g : DB → Option Failure} {u : DB → DB} (hg : ∀ s, g s = none) (hu : ∀ s, (u s).bank = s.bank) : SafeB (M.guarded g u) :=
  of_safe (Safe.guarded hg) (Step.guarded hu)

end SafeB

theorem payPegReq_safe (P : Params) (h : Nat) (rates : TMap) (r : PegReq) (y : Nat)
    (hc : validTicker P r.tx.conversion = true) (ht : validTicker P r.tx.inType = true) (hy : y ≤ maxInt64) :
    Safe (payPegReq P h rates r y) :=
  Safe.bind (Safe.guarded fun _ => rfl) fun _ => Safe.bind (addBal_safe P _ _ _ hc hy) fun _ =>
    addBal_safe P _ _ _ ht (Int.toNat_le.2 (convertD_le ..))

theorem payout_le_bank (bank : Nat) (reqs : List (TxKey × Nat)) (hb : bank ≤ maxUint64)
    (hn : (reqs.map (·.1)).Nodup) : ∀ p ∈ payouts bank reqs, p.2 ≤ bank :=
  fun _ hp => Nat.le_trans (mem_sumReq_le hp) (payouts_sum_le bank reqs hb hn)

/-- **The bank pass never fails** on batches whose transactions are all conversions into a known
    asset (a genuine PEG request is one), with distinct (entry, index) keys, a bank within int64 and —
    in the bank-table era — the block's bank row in place. The excluded shape (a TRANSFER inside a
    batch that also holds a PEG request) is the recorded finding of C08: it is "paid" in ticker 0. -/
theorem recordPegRequests_never_fails (P : Params) (h : Nat) (rates avgs : TMap) (batches : List TxEntry)
    (bank : Nat) (bh : Int) (s : DB)
    (hkeys : hasDupKey ((pegRequests P h rates avgs batches).map (·.key)) = false)
    (hconv : ∀ r ∈ pegRequests P h rates avgs batches, validTicker P r.tx.conversion = true ∧ validTicker P r.tx.inType = true)
    (hbank : bank ≤ maxInt64)
    (hrow : bh ≥ (P.act.v4 : Int) → s.bank.any (·.height == bh) = true) :
    ∃ s', recordPegRequests P h rates avgs batches bank bh s = .ok () s' := by
  unfold recordPegRequests
  dsimp only
  rw [if_neg (by rw [hkeys]; nofun)]
  have hnd : (((pegRequests P h rates avgs batches).map fun r => (r.key, r.requested)).map (·.1)).Nodup := by
    rw [List.map_map]
    exact (hasDupKey_false_iff _).1 hkeys
  have hbank' : bank ≤ maxUint64 := Nat.le_trans hbank (by decide)
  have hloop : SafeB (M.forEach ((pegRequests P h rates avgs batches).zip
      (payouts bank ((pegRequests P h rates avgs batches).map fun r => (r.key, r.requested))))
      (fun rp => payPegReq P h rates rp.1 rp.2.2)) := by
    refine .of_safe (Safe.forEach fun rp hrp => ?_) (Step.forEach fun rp => payPegReq_keeps_bank P h rates rp.1 rp.2.2)
    have hr := hconv rp.1 (List.of_mem_zip hrp).1
    have hy := payout_le_bank bank _ hbank' hnd rp.2 (List.of_mem_zip hrp).2
    exact payPegReq_safe P h rates rp.1 rp.2.2 hr.1 hr.2 (Nat.le_trans hy hbank)
  obtain ⟨_, s1, h1, hb1⟩ := hloop s
  rw [M.bind_run, h1]
  dsimp only
  by_cases hv4 : bh ≥ (P.act.v4 : Int)
  · rw [if_pos hv4]
    simp only [updateBank, M.guarded]
    rw [hb1, if_pos (hrow hv4)]
    exact ⟨_, rfl⟩
  · rw [if_neg hv4]
    exact ⟨s1, rfl⟩

theorem pegRequests_keys (P : Params) (h : Nat) (rates avgs : TMap) (batches : List TxEntry) :
    (pegRequests P h rates avgs batches).map (·.key) =
      batches.flatMap (fun e => (List.range e.txs.length).map (fun i => ({ idx := i, hash := e.hash } : TxKey))) := by
  unfold pegRequests
  rw [List.map_flatMap]
  congr 1
  funext e
  rw [List.map_map, List.range_eq_range', ← List.zipIdx_map_snd 0 e.txs, List.map_map]
  rfl

theorem pegRequests_no_dup (P : Params) (h : Nat) (rates avgs : TMap) (batches : List TxEntry)
    (hn : (batches.map (·.hash)).Nodup) :
    hasDupKey ((pegRequests P h rates avgs batches).map (·.key)) = false := by
  apply (hasDupKey_false_iff _).2
  rw [pegRequests_keys]
  refine List.pairwise_flatMap.2 ⟨fun e _ => List.Pairwise.map _ (fun i j hij hab => hij (TxKey.mk.inj hab).1) List.nodup_range, ?_⟩
  refine (List.pairwise_map.1 hn).imp fun hne k hk k' hk' hkk => ?_
  obtain ⟨i, _, rfl⟩ := List.mem_map.1 hk
  obtain ⟨j, _, rfl⟩ := List.mem_map.1 hk'
  exact hne (TxKey.mk.inj hkk).2

end Pegnet

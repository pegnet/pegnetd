import Proofs.Hoare
/-
  Total correctness for the model monad: `Tot p m q` — from every state satisfying `p` the program
  `m` succeeds, and result and end state satisfy `q`. What a run leaves alone is not said here but
  by `Step (keepRel f) m`.
-/
namespace Pegnet

/-- `Safe m` (Proofs/LivenessHeld) is `Tot (fun _ => True) m (fun _ _ => True)`; `SafeB m` (Proofs/LivenessBank) is `Safe m`
    together with "the bank table is as before" -/
def Tot {σ α} (p : σ → Prop) (m : M σ α) (q : α → σ → Prop) : Prop :=
  ∀ s, p s → ∃ a s', m s = .ok a s' ∧ q a s'

namespace Tot
variable {σ α β : Type} {p : σ → Prop}

theorem pure (a : α) : Tot p (Pure.pure a : M σ α) (fun _ => p) := fun s hs => ⟨a, s, rfl, hs⟩

theorem get : Tot p (M.get : M σ σ) (fun _ => p) := fun s hs => ⟨s, s, rfl, hs⟩

theorem bind {m : M σ α} {f : α → M σ β} {r : α → σ → Prop} {q : β → σ → Prop}
    (hm : Tot p m r) (hf : ∀ a, Tot (r a) (f a) q) : Tot p (m >>= f) q := by
  intro s hs
  obtain ⟨a, s1, h1, hr⟩ := hm s hs
  obtain ⟨b, s2, h2, hq⟩ := hf a s1 hr
  exact ⟨b, s2, by rw [M.bind_run, h1]; exact h2, hq⟩

theorem guarded {g : σ → Option Failure} {u : σ → σ} {q : Unit → σ → Prop}
    (h : ∀ s, p s → g s = none ∧ q () (u s)) : Tot p (M.guarded g u) q := by
  intro s hs
  exact ⟨(), u s, by simp only [M.guarded, (h s hs).1], (h s hs).2⟩

theorem mono {m : M σ α} {p' : σ → Prop} {q q' : α → σ → Prop} (h : Tot p m q)
    (hp : ∀ s, p' s → p s) (hq : ∀ a s, q a s → q' a s) : Tot p' m q' := by
  intro s hs
  obtain ⟨a, s', h1, h2⟩ := h s (hp s hs)
  exact ⟨a, s', h1, hq a s' h2⟩

theorem forEach {l : List α} {f : α → M σ Unit} (hf : ∀ a ∈ l, Tot p (f a) (fun _ => p)) :
    Tot p (M.forEach l f) (fun _ => p) := by
  induction l with
  | nil => exact pure ()
  | cons x xs ih =>
    exact bind (m := f x) (hf x List.mem_cons_self) fun _ => ih fun a ha => hf a (List.mem_cons_of_mem _ ha)

theorem forEachFrom {l : List α} {f : Nat → α → M σ Unit} (inv : Nat → σ → Prop)
    (hf : ∀ k, ∀ a ∈ l, Tot (inv k) (f k a) (fun _ => inv (k + 1))) (k : Nat) :
    Tot (inv k) (M.forEach (l.zipIdx k) (fun x => f x.2 x.1)) (fun _ => inv (k + l.length)) := by
  induction l generalizing k with
  | nil => exact pure ()
  | cons x xs ih =>
    rw [List.zipIdx_cons, List.length_cons, ← Nat.add_assoc, Nat.add_right_comm]
    exact bind (m := f k x) (hf k x List.mem_cons_self)
      fun _ => ih (fun k a ha => hf k a (List.mem_cons_of_mem _ ha)) (k + 1)

theorem forEachIdx {l : List α} {f : Nat → α → M σ Unit} (inv : Nat → σ → Prop)
    (hf : ∀ k, ∀ a ∈ l, Tot (inv k) (f k a) (fun _ => inv (k + 1))) :
    Tot (inv 0) (M.forEachIdx l f) (fun _ => inv l.length) := by
  have := forEachFrom inv hf 0
  rwa [Nat.zero_add] at this

end Tot

end Pegnet

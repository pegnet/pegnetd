/-
  Facts about lists, integers and orders the model needs.

  `List.foldl max` / `List.foldl min`: the model computes SQL `MAX`/`MIN` aggregates and the "highest request"
  as left folds of `max`/`min` (`maxReq`, `highestSynced`, `minVersionFrom`, `maxVersionFrom`,
  `DB.mostRecentRatesBefore`).  One fact says everything about such a fold: **`l.foldl max a` is the greatest
  element of `a :: l`**.  Core Lean has it for `List.max?`, and `(a :: l).max? = some (l.foldl max a)` holds by
  definition (`List.max?_cons'`), so nothing about folds is proved by induction here.  Stated for any linear
  order: the model folds over `Nat` (heights, amounts) and over `Int` (versions).
-/
open Std

namespace List

theorem foldl_max_greatest {α : Type _} [LE α] [IsLinearOrder α] [Max α] [LawfulOrderMax α] (l : List α) (a : α) :
    l.foldl max a ∈ a :: l ∧ ∀ b ∈ a :: l, b ≤ l.foldl max a :=
  max?_eq_some_iff.1 max?_cons'

theorem foldl_min_least {α : Type _} [LE α] [IsLinearOrder α] [Min α] [LawfulOrderMin α] (l : List α) (a : α) :
    l.foldl min a ∈ a :: l ∧ ∀ b ∈ a :: l, l.foldl min a ≤ b :=
  min?_eq_some_iff.1 min?_cons'

theorem foldl_max_zero_mem {l : List Nat} (h : l ≠ []) : l.foldl max 0 ∈ l := by
  obtain ⟨hm, hub⟩ := foldl_max_greatest l 0
  rcases mem_cons.1 hm with h0 | hm
  · obtain ⟨x, hx⟩ := exists_mem_of_ne_nil l h
    have := hub x (mem_cons_of_mem _ hx)
    rw [h0] at this ⊢
    exact Nat.le_zero.1 this ▸ hx
  · exact hm

variable {ι α : Type _} [LE α] [LT α] [IsLinearOrder α] [LawfulOrderLT α]

/-- SQL `MAX(f)` over the non-empty row list `x :: l` -/
theorem lt_foldl_max_key_iff [Max α] [LawfulOrderMax α] (f : ι → α) (l : List ι) (x : ι) (v : α) :
    v < l.foldl (fun m y => max m (f y)) (f x) ↔ ∃ y ∈ x :: l, v < f y := by
  rw [← foldl_map (g := max)]
  have g := foldl_max_greatest (l.map f) (f x)
  constructor
  · intro h
    have hm : (l.map f).foldl max (f x) ∈ (x :: l).map f := g.1
    obtain ⟨y, hy, e⟩ := mem_map.1 hm
    exact ⟨y, hy, e ▸ h⟩
  · intro ⟨y, hy, hv⟩
    exact lt_of_lt_of_le hv (g.2 _ (mem_map_of_mem hy : f y ∈ (x :: l).map f))

/-- SQL `MIN(f)` over the non-empty row list `x :: l` -/
theorem foldl_min_key_lt_iff [Min α] [LawfulOrderMin α] (f : ι → α) (l : List ι) (x : ι) (v : α) :
    l.foldl (fun m y => min m (f y)) (f x) < v ↔ ∃ y ∈ x :: l, f y < v := by
  rw [← foldl_map (g := min)]
  have g := foldl_min_least (l.map f) (f x)
  constructor
  · intro h
    have hm : (l.map f).foldl min (f x) ∈ (x :: l).map f := g.1
    obtain ⟨y, hy, e⟩ := mem_map.1 hm
    exact ⟨y, hy, e ▸ h⟩
  · intro ⟨y, hy, hv⟩
    exact lt_of_le_of_lt (g.2 _ (mem_map_of_mem hy : f y ∈ (x :: l).map f)) hv

theorem sum_map_ite {κ} (p : κ → Bool) (f : κ → Int) (l : List κ) :
    (l.map fun k => if p k then f k else 0).sum = ((l.filter p).map f).sum := by
  induction l with
  | nil => rfl
  | cons k ks ih =>
    rw [map_cons, sum_cons, ih, filter_cons]
    cases p k <;> simp

theorem sum_map_zero {κ} (l : List κ) : (l.map fun _ => (0 : Int)).sum = 0 := by
  rw [map_const', sum_replicate_int, Int.mul_zero]

theorem sum_filter_split {α : Type} (l : List α) (p : α → Bool) (g : α → Nat) :
    (l.map g).sum = ((l.filter p).map g).sum + ((l.filter (fun a => !p a)).map g).sum := by
  rw [← sum_append_nat, ← map_append]
  exact ((filter_append_perm p l).map g).sum_nat.symm

theorem mem_map_update {α} {p : α → Bool} {u : α → α} {l : List α} {r : α}
    (hr : r ∈ l.map fun q => if p q then u q else q) : (∃ q, p q = true ∧ r = u q) ∨ p r = false := by
  obtain ⟨q, _, rfl⟩ := mem_map.1 hr
  by_cases hq : p q = true
  · exact .inl ⟨q, hq, by rw [if_pos hq]⟩
  · rw [if_neg hq]
    exact .inr (Bool.eq_false_iff.2 hq)

theorem Nodup.concat {α} {l : List α} {x : α} (h : l.Nodup) (hx : x ∉ l) : (l ++ [x]).Nodup :=
  nodup_append.2 ⟨h, nodup_cons.2 ⟨not_mem_nil, nodup_nil⟩,
    fun _ ha _ hb hab => hx (mem_singleton.1 hb ▸ hab ▸ ha)⟩

end List

theorem Int.sub_ite_zero (c : Prop) [Decidable c] (a v : Int) : a - (if c then v else 0) = if c then a - v else a := by
  split
  · rfl
  · exact Int.sub_zero a

theorem Int.add_ite_zero (c : Prop) [Decidable c] (a v : Int) : a + (if c then v else 0) = if c then a + v else a := by
  split
  · rfl
  · exact Int.add_zero a

namespace Pegnet

/- Lexicographic order on two keys. Both orders the Go code sorts by compare two linearly ordered keys one
   after the other: stakers by (stake, address), txids by (hash, index). -/

section Lex
variable {α β : Type _} [LT α] [LE α] [LawfulOrderLT α] [LT β] [LE β] [LawfulOrderLT β]

theorem lexLt_irrefl (s : α × β) : ¬ Prod.lexLt s s :=
  fun h => h.elim lt_irrefl (fun h => lt_irrefl h.2)

variable [IsLinearOrder α] [IsLinearOrder β]

theorem lexLt_trans {s t u : α × β} (h1 : Prod.lexLt s t) (h2 : Prod.lexLt t u) : Prod.lexLt s u := by
  rcases h1 with h1 | ⟨e1, l1⟩
  · rcases h2 with h2 | ⟨e2, _⟩
    · exact Or.inl (lt_trans h1 h2)
    · exact Or.inl (e2 ▸ h1)
  · rcases h2 with h2 | ⟨e2, l2⟩
    · exact Or.inl (e1 ▸ h2)
    · exact Or.inr ⟨e1.trans e2, lt_trans l1 l2⟩

theorem lexLt_trichotomy {s t : α × β} (h1 : ¬ Prod.lexLt s t) (h2 : ¬ Prod.lexLt t s) : s = t := by
  have e : s.1 = t.1 :=
    Trichotomous.trichotomous (r := (· < ·)) _ _ (fun h => h1 (Or.inl h)) (fun h => h2 (Or.inl h))
  exact Prod.ext e (Trichotomous.trichotomous (r := (· < ·)) _ _
    (fun h => h1 (Or.inr ⟨e, h⟩)) (fun h => h2 (Or.inr ⟨e.symm, h⟩)))

end Lex

/-- the left side is the shape of the test in `TxKey.lt` and `insertSortedStake` -/
theorem lexLt_test {α β : Type _} [LT α] [LT β] [BEq α] [LawfulBEq α] [DecidableLT α] [DecidableLT β]
    (a a' : α) (b b' : β) :
    (decide (a < a') || (a == a' && decide (b < b'))) = true ↔ Prod.lexLt (a, b) (a', b') := by
  simp only [Bool.or_eq_true, decide_eq_true_eq, Bool.and_eq_true, beq_iff_eq, Prod.lexLt_def]

end Pegnet

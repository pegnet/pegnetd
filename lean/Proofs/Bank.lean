import Proofs.Moves
import Proofs.Payouts
/-
  C16 at the level of `recordPegnetRequests` (the second pass of the bank era): a pass that
  completes had distinct keys, ran the paying loop, which leaves the bank table alone, and then
  updated the bank row.
-/
namespace Pegnet

theorem payPegReq_keeps_bank (P : Params) (h : Nat) (rates : TMap) (r : PegReq) (y : Nat) :
    Step (keepRel (·.bank)) (payPegReq P h rates r y) :=
  Step.bind (Step.guarded fun _ => rfl) fun _ => Step.bind (Step.guarded fun _ => rfl) fun _ => Step.guarded fun _ => rfl

theorem sum_zip_snd {α} (l : List α) (ps : List (TxKey × Nat)) (hlen : l.length = ps.length) :
    ((l.zip ps).map (fun rp => (rp.2.2 : Int))).sum = (sumReq ps : Int) := by
  induction l generalizing ps with
  | nil =>
    cases ps with
    | nil => simp [sumReq]
    | cons _ _ => simp at hlen
  | cons x xs ih =>
    cases ps with
    | nil => simp at hlen
    | cons p ps =>
      simp only [List.zip_cons_cons, List.map_cons, List.sum_cons, sumReq_cons]
      rw [ih ps (by simpa using hlen)]
      omega

theorem recordPegRequests_ok {P : Params} {h : Nat} {rates avgs : TMap} {batches : List TxEntry}
    {bank : Nat} {bh : Int} {s s' : DB} (hr : recordPegRequests P h rates avgs batches bank bh s = .ok () s') :
    hasDupKey ((pegRequests P h rates avgs batches).map (·.key)) = false ∧
    ∃ s1, M.forEach ((pegRequests P h rates avgs batches).zip
          (payouts bank ((pegRequests P h rates avgs batches).map fun r => (r.key, r.requested))))
        (fun rp => payPegReq P h rates rp.1 rp.2.2) s = .ok () s1 ∧
      (if bh ≥ (P.act.v4 : Int) then
          updateBank bh ((payouts bank ((pegRequests P h rates avgs batches).map fun r => (r.key, r.requested))).map
              (fun p => toInt64 p.2)).sum
            (toInt64 (totalRequested ((pegRequests P h rates avgs batches).map fun r => (r.key, r.requested))))
        else pure ()) s1 = .ok () s' := by
  revert hr
  fun_cases recordPegRequests P h rates avgs batches bank bh
  case case1 => nofun
  case case2 hd =>
    intro hr
    obtain ⟨_, s1, h1, h2⟩ := M.bind_ok hr
    exact ⟨Bool.eq_false_iff.2 hd, s1, h1, h2⟩

theorem hasDupKey_false_iff : ∀ ks : List TxKey, hasDupKey ks = false ↔ ks.Nodup
  | [] => ⟨fun _ => List.nodup_nil, fun _ => rfl⟩
  | k :: rest => by
    rw [hasDupKey, Bool.or_eq_false_iff, List.nodup_cons, hasDupKey_false_iff rest, Bool.eq_false_iff, Ne, List.contains_iff_mem]

end Pegnet

import Proofs.Payouts
import Pegnet.Sync
/-
  C01: the two places where the Go code turns a hash map into an ordered result.
  * `SnapshotPayouts`: `range staked` → slice → sort by (stake, address) [fix 5b8087b] → the slice
    index becomes the payout txid. The model's `sortStakes` is an insertion sort with that key;
    here: its result does not depend on the order in which the map was iterated.
  * `ConversionSupplySet.Payouts`: three `range`s over the request map, the rounding dust goes to
    the highest request, ties to the smallest txid. Here: the payout of every txid is the same for
    every iteration order.
  Both orders are lexicographic on two keys (`lexLt_…` in Proofs/ListFold); that the dust receiver `minKey` is
  order-free is `minKey_perm` (Proofs/Payouts).
-/
namespace Pegnet

/-- strictly before in the order of the staking list: by stake, ties by address -/
abbrev stakeLt (x y : Addr × Nat) : Prop := Prod.lexLt (x.2, x.1) (y.2, y.1)

abbrev StakeSorted (l : List (Addr × Nat)) : Prop := l.Pairwise fun a b => ¬ stakeLt b a

theorem insertSortedStake_perm (x : Addr × Nat) (l : List (Addr × Nat)) : (insertSortedStake x l).Perm (x :: l) := by
  fun_induction insertSortedStake x l
  case case1 => exact .refl _
  case case2 => exact .refl _
  case case3 y ys _ ih => exact (ih.cons y).trans (.swap x y ys)

theorem insertSortedStake_sorted (x : Addr × Nat) (l : List (Addr × Nat)) (h : StakeSorted l) :
    StakeSorted (insertSortedStake x l) := by
  fun_induction insertSortedStake x l
  case case1 => exact List.pairwise_singleton _ x
  case case2 y ys hc =>
    refine List.pairwise_cons.2 ⟨fun z hz hzx => ?_, h⟩
    have hzy : stakeLt z y := lexLt_trans hzx ((lexLt_test ..).1 hc)
    rcases List.mem_cons.1 hz with rfl | hz
    · exact lexLt_irrefl _ hzy
    · exact List.rel_of_pairwise_cons h hz hzy
  case case3 y ys hc ih =>
    refine List.pairwise_cons.2 ⟨fun z hz => ?_, ih h.of_cons⟩
    rcases List.mem_cons.1 ((insertSortedStake_perm x ys).subset hz) with rfl | hz
    · exact mt (lexLt_test ..).2 hc
    · exact List.rel_of_pairwise_cons h hz

theorem sortStakes_perm_sorted (l : List (Addr × Nat)) : (sortStakes l).Perm l ∧ StakeSorted (sortStakes l) := by
  refine ⟨?_, List.foldlRecOn l _ .nil fun acc h x _ => insertSortedStake_sorted x acc h⟩
  -- step by step a permutation of what consing the elements gives, the reversed list
  refine .trans (List.foldl_rel (g := fun acc x => x :: acc) (.refl [])
    fun x _ acc acc' h => (insertSortedStake_perm x acc).trans (h.cons x)) ?_
  rw [List.foldl_flip_cons_eq_append', List.append_nil]
  exact List.reverse_perm l

/-- **The staking order does not depend on map iteration order**: whatever order the stakers
    come out of the Go map in, the sorted list — hence every payout index (txid) and the
    assignment of the rounding dust — is the same. -/
theorem sortStakes_order_free {l₁ l₂ : List (Addr × Nat)} (h : l₁.Perm l₂) : sortStakes l₁ = sortStakes l₂ := by
  obtain ⟨p1, s1⟩ := sortStakes_perm_sorted l₁
  obtain ⟨p2, s2⟩ := sortStakes_perm_sorted l₂
  refine List.Perm.eq_of_pairwise (fun a b _ _ h1 h2 => ?_) s1 s2 (p1.trans (h.trans p2.symm))
  have e := lexLt_trichotomy h2 h1
  exact Prod.ext (congrArg Prod.snd e) (congrArg Prod.fst e)

theorem perm_ite {α} {c : Prop} [Decidable c] {a a' b b' : List α} (h1 : a.Perm a') (h2 : b.Perm b') :
    (if c then a else b).Perm (if c then a' else b') := by
  by_cases hc : c
  · rw [if_pos hc, if_pos hc]
    exact h1
  · rw [if_neg hc, if_neg hc]
    exact h2

theorem sumReq_perm {l₁ l₂ : List (TxKey × Nat)} (h : l₁.Perm l₂) : sumReq l₁ = sumReq l₂ :=
  (h.map _).sum_nat

theorem maxReq_perm {l₁ l₂ : List (TxKey × Nat)} (h : l₁.Perm l₂) : maxReq l₁ = maxReq l₂ :=
  h.foldl_eq' (fun _ _ _ _ _ => Nat.max_right_comm ..) 0

/-- **`ConversionSupplySet.Payouts` does not depend on map iteration order**: for every order in
    which the request map is ranged over, the result assigns the same amount to every txid (the
    results are permutations of one another). The request set enters `payouts` through four
    numbers (emptiness, total, total paid, highest request) and the dust receiver, all order-free;
    the rest is `map` over the requests. -/
theorem payouts_order_free (bank : Nat) {l₁ l₂ : List (TxKey × Nat)} (h : l₁.Perm l₂) :
    (payouts bank l₁).Perm (payouts bank l₂) := by
  unfold payouts
  dsimp only
  rw [h.isEmpty_eq, sumReq_perm h, maxReq_perm h, sumReq_perm (h.map _), minKey_perm ((h.filter _).map _)]
  refine perm_ite (.refl _) (perm_ite h ?_)
  cases minKey ((l₂.filter (fun r => r.2 == maxReq l₂)).map (·.1)) with
  | none => exact h.map _
  | some w => exact (h.map _).map _

end Pegnet

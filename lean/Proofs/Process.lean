import Proofs.InOrder
import Proofs.Averages
/-
  The daemon as a process (DBlockSync loop, node/sync.go:52-144; start-up, node/node.go:44-64)
  at block granularity. One event is
    * an iteration of the loop that runs to its end (commit, or rollback of a failing block),
    * an iteration that is cut short before COMMIT — by an injected fault (a failed upstream
      request or SQL statement) or by a kill: nothing is committed (SQLite's atomicity is assumed),
      the in-memory averaging cache may or may not have been advanced,
    * a restart: the process state is rebuilt from the database (`restart`).
  The block attempted is always the one at height `Sync.Synced + 1` of the chain.
  A fact about one event goes to runs through `runEvs_inv` (an invariant of the node), `runEvs_rel` (a relation that
  every successful block transaction respects) or `runEvs_erase` (a simulation between a run and the run with some
  events erased). So: along every run heights are applied once each, in order, without gaps (`runEvs_inOrder`), and
  the events that commit nothing can be erased from a run — iterations cut short without a trace in database and
  height (`aborted_erasable`; at every height `aborted_erasable_all`, simulation `AheadOf`), restarts too, below PIP-10, up to the
  back-fill rows of the version table (`only_attempts_matter`, simulation `SameLedger`; above PIP-10 on whole windows:
  `only_attempts_matter_whole` in Proofs/RestartAvg).
-/
namespace Pegnet

inductive Ev where
  | attempt
  | aborted (touched : Bool)
  | restart
  deriving Repr, DecidableEq

/-- the complete iteration for block `b` reaches `ApplyTransactionBatchesInHolding` -/
def touches (P : Params) (n : Node) (b : Block) : Bool :=
  let c : DB := { n.db with avgTouched := false }
  (blockTx P c b (getAverages P c n.cache (c.mostRecentRatesBefore b.height).2).2 c).state.avgTouched

theorem touches_eq (P : Params) (n : Node) (b : Block) :
    touches P n b =
      (blockTx P { n.db with avgTouched := false } b (pricingAvgs P n b) { n.db with avgTouched := false }).state.avgTouched := rfl

def stepEv (P : Params) (ch : Nat → Block) (n : Node) : Ev → Node
  | .attempt => (applyBlock P n (ch (n.mem + 1))).1
  | .aborted t => if t then { n with cache := touchCache P n (ch (n.mem + 1)) } else n
  | .restart => restart P n

def runEvs (P : Params) (ch : Nat → Block) (n : Node) (es : List Ev) : Node := es.foldl (stepEv P ch) n

def Ev.isAborted : Ev → Bool
  | .aborted _ => true
  | _ => false

def Ev.isAttempt : Ev → Bool
  | .attempt => true
  | _ => false

/-- every height attempted along the run is below the PIP-10 activation (the averages are then no input of the block).
    Like `ValidRun` and `WholeRun` (Proofs/RestartAvg) it asks something of each event at the node where it is taken: the
    shape `runEvs_erase` takes. -/
def BelowPip10 (P : Params) (ch : Nat → Block) : Node → List Ev → Prop
  | _, [] => True
  | n, e :: es => n.mem + 1 < P.act.pip10 ∧ BelowPip10 P ch (stepEv P ch n e) es

theorem stepEv_aborted_db (P : Params) (ch : Nat → Block) (n : Node) (t : Bool) : (stepEv P ch n (.aborted t)).db = n.db := by
  cases t
  · rfl
  · rfl

theorem stepEv_aborted_mem (P : Params) (ch : Nat → Block) (n : Node) (t : Bool) : (stepEv P ch n (.aborted t)).mem = n.mem := by
  cases t
  · rfl
  · rfl

theorem restart_congr {P : Params} {n₁ n₂ : Node} (hdb : n₁.db = n₂.db) : restart P n₁ = restart P n₂ := by
  unfold restart
  rw [hdb]

theorem runEvs_inv {P : Params} {ch : Nat → Block} {I : Node → Prop} (hstep : ∀ n e, I n → I (stepEv P ch n e))
    (es : List Ev) (n : Node) (h : I n) : I (runEvs P ch n es) :=
  List.foldlRecOn es _ h fun n hn e _ => hstep n e hn

/-- **Heights are applied once each, in order, without gaps** — along every run of the process,
    whatever faults, kills and restarts it contains and whatever the blocks contain. -/
theorem runEvs_inOrder (P : Params) (ch : Nat → Block) (hch : ∀ h, (ch h).height = h) (lo : Nat)
    (es : List Ev) (n : Node) (h : InOrder P lo n) : InOrder P lo (runEvs P ch n es) := by
  refine runEvs_inv (fun n e h => ?_) es n h
  cases e with
  | attempt => exact inOrder_attempt (ch (n.mem + 1)) (hch _) h
  | aborted t => exact h.congr (stepEv_aborted_db P ch n t) (stepEv_aborted_mem P ch n t)
  | restart => exact inOrder_restart h

/-- **From the block transaction to the process.** A relation on the database that ignores the
    ephemeral flag and the version table, and that every SUCCESSFUL block transaction respects, holds
    between the start and the end of every run — completed iterations, iterations cut short, restarts. -/
theorem runEvs_rel {P : Params} {R : Rel DB} (fb : FlagBlind R) (hsv : ∀ s A, R.r s { s with syncVersions := A })
    (hblk : ∀ b c avgs, StepOk R (blockTx P c b avgs)) (ch : Nat → Block) (es : List Ev) (n : Node) :
    R.r n.db (runEvs P ch n es).db := by
  refine runEvs_inv (I := fun m => R.r n.db m.db) (fun m e hm => R.trans _ _ _ hm ?_) es n (R.refl _)
  cases e with
  | attempt => exact applyBlock_rel_ok fb m _ (hblk _)
  | aborted t => rw [stepEv_aborted_db]; exact R.refl _
  | restart => exact hsv m.db _

/-- **Erasing events from a run.** `keep` says which events stay. `Sim n₁ n₂` relates the node of the full run to
    the node of the erased run, and `hstep` is the one obligation: `Sim` survives an event that the full run takes
    and the erased run takes only if it is kept (the `bif`, which reduces once `e` is a constructor). `Hd n e` is
    what `hstep` may assume of an event `e` taken at node `n`, and `G` the hypothesis on the whole run that provides it:
    the recursive `BelowPip10`, `ValidRun`, `WholeRun` unfold to `Hd n e ∧ G (stepEv P ch n e) es`, so for them `hG` is
    `fun _ _ _ h => h`. -/
theorem runEvs_erase {P : Params} {ch : Nat → Block} (keep : Ev → Bool) {Sim : Node → Node → Prop}
    {G : Node → List Ev → Prop} {Hd : Node → Ev → Prop}
    (hG : ∀ n e es, G n (e :: es) → Hd n e ∧ G (stepEv P ch n e) es)
    (hstep : ∀ n₁ n₂ e, Sim n₁ n₂ → Hd n₁ e → Sim (stepEv P ch n₁ e) (bif keep e then stepEv P ch n₂ e else n₂))
    (es : List Ev) (n₁ n₂ : Node) (h : Sim n₁ n₂) (hg : G n₁ es) :
    Sim (runEvs P ch n₁ es) (runEvs P ch n₂ (es.filter keep)) := by
  induction es generalizing n₁ n₂ with
  | nil => exact h
  | cons e rest ih =>
    obtain ⟨hd, hg'⟩ := hG _ _ _ hg
    have hs := hstep n₁ n₂ e h hd
    cases hk : keep e with
    | true => rw [hk] at hs; rw [List.filter_cons_of_pos hk]; exact ih _ _ hs hg'
    | false => rw [hk] at hs; rw [List.filter_cons_of_neg (by rw [hk]; exact Bool.false_ne_true)]; exact ih _ _ hs hg'

/-- C10 below PIP-10: erasing every aborted iteration from a run changes neither the database nor the
    sync height: once the fault clears, the daemon reaches exactly the state of the fault-free run. -/
theorem aborted_erasable (P : Params) (ch : Nat → Block) (hch : ∀ h, (ch h).height = h)
    (es : List Ev) (n₁ n₂ : Node) (hdb : n₁.db = n₂.db) (hmem : n₁.mem = n₂.mem)
    (hb : BelowPip10 P ch n₁ es) :
    (runEvs P ch n₁ es).db = (runEvs P ch n₂ (es.filter (fun e => !e.isAborted))).db ∧
    (runEvs P ch n₁ es).mem = (runEvs P ch n₂ (es.filter (fun e => !e.isAborted))).mem := by
  refine runEvs_erase (fun e => !e.isAborted) (Sim := fun n₁ n₂ => n₁.db = n₂.db ∧ n₁.mem = n₂.mem)
    (Hd := fun n _ => n.mem + 1 < P.act.pip10) (fun _ _ _ h => h) ?_ es n₁ n₂ ⟨hdb, hmem⟩ hb
  intro n₁ n₂ e ⟨hdb, hmem⟩ hlt
  cases e with
  | attempt =>
    show (applyBlock P n₁ _).1.db = (applyBlock P n₂ _).1.db ∧ (applyBlock P n₁ _).1.mem = (applyBlock P n₂ _).1.mem
    rw [← hmem]
    have hci := applyBlock_congr (P := P) (b := ch (n₁.mem + 1)) hdb fun c => blockTx_avgs c _ _ _ (by rw [hch]; exact hlt)
    exact ⟨hci.1, by rw [applyBlock_mem, applyBlock_mem, hci.2, hmem]⟩
  | aborted t => exact ⟨(stepEv_aborted_db ..).trans hdb, (stepEv_aborted_mem ..).trans hmem⟩
  | restart => exact ⟨congrArg Node.db (restart_congr hdb), congrArg Node.mem (restart_congr hdb)⟩

/- C10 at every height. An iteration that is cut short can only have advanced the averaging cache if
   the complete iteration would have reached `GetPegNetRateAverages` too (up to the fault the two
   executions are the same). With that, aborted iterations can be erased at EVERY height: the retry finds
   the cache already at the height it asks for and gets the same averages. -/

/-- runs in which an aborted iteration claims a cache update only where the complete iteration would have made it
    (`touches`); no bound on heights, unlike `BelowPip10` -/
def ValidRun (P : Params) (ch : Nat → Block) : Node → List Ev → Prop
  | _, [] => True
  | n, e :: es => (e = .aborted true → touches P n (ch (n.mem + 1)) = true) ∧ ValidRun P ch (stepEv P ch n e) es

/-- node equality up to a cache that has (legitimately) been advanced for the next block -/
def AheadOf (P : Params) (ch : Nat → Block) (n₁ n₂ : Node) : Prop :=
  n₁.db = n₂.db ∧ n₁.mem = n₂.mem ∧
  (n₁.cache = n₂.cache ∨
   (n₁.cache = touchCache P n₂ (ch (n₂.mem + 1)) ∧ touches P n₂ (ch (n₂.mem + 1)) = true))

theorem AheadOf.refl {P : Params} {ch : Nat → Block} (n : Node) : AheadOf P ch n n := ⟨rfl, rfl, .inl rfl⟩

theorem node_ext {n₁ n₂ : Node} (h1 : n₁.db = n₂.db) (h2 : n₁.mem = n₂.mem) (h3 : n₁.cache = n₂.cache) : n₁ = n₂ := by
  cases n₁
  cases n₂
  cases h1
  cases h2
  cases h3
  rfl

theorem touchCache_again {P : Params} {n₁ n₂ : Node} {b : Block} (hdb : n₁.db = n₂.db) (hc : n₁.cache = touchCache P n₂ b) :
    touchCache P n₁ b = touchCache P n₂ b ∧ pricingAvgs P n₁ b = pricingAvgs P n₂ b := by
  unfold pricingAvgs
  unfold touchCache at hc ⊢
  rw [hdb, hc, getAverages_idem]
  exact ⟨rfl, rfl⟩

theorem applyBlock_ahead (P : Params) (n₁ n₂ : Node) (b : Block) (hdb : n₁.db = n₂.db) (hmem : n₁.mem = n₂.mem)
    (hc : n₁.cache = touchCache P n₂ b) (ht : touches P n₂ b = true) :
    applyBlock P n₁ b = applyBlock P n₂ b := by
  obtain ⟨h1, h2⟩ := touchCache_again hdb hc
  rw [touches_eq] at ht
  rw [applyBlock_eq P n₁, applyBlock_eq P n₂, h1, h2, hdb, hmem]
  generalize blockTx P _ b _ _ = r at ht ⊢
  cases r with
  | ok _ s' => simp only [show s'.avgTouched = true from ht, if_true]
  | fail _ s' => simp only [show s'.avgTouched = true from ht, if_true]

/-- **Fault transparency (propagated faults), every height.** Erasing the aborted iterations
    from any valid run changes neither the database nor the sync height. -/
theorem aborted_erasable_all (P : Params) (ch : Nat → Block)
    (es : List Ev) (n₁ n₂ : Node) (ha : AheadOf P ch n₁ n₂) (hv : ValidRun P ch n₁ es) :
    (runEvs P ch n₁ es).db = (runEvs P ch n₂ (es.filter (fun e => !e.isAborted))).db ∧
    (runEvs P ch n₁ es).mem = (runEvs P ch n₂ (es.filter (fun e => !e.isAborted))).mem := by
  have key := runEvs_erase (fun e => !e.isAborted) (Sim := AheadOf P ch)
    (Hd := fun n e => e = .aborted true → touches P n (ch (n.mem + 1)) = true) (fun _ _ _ h => h) ?_ es n₁ n₂ ha hv
  · exact ⟨key.1, key.2.1⟩
  intro n₁ n₂ e ⟨hdb, hmem, hcache⟩ hve
  cases e with
  | attempt =>
    show AheadOf P ch (applyBlock P n₁ (ch (n₁.mem + 1))).1 (applyBlock P n₂ (ch (n₂.mem + 1))).1
    rw [hmem]
    rcases hcache with hc | ⟨hc, ht⟩
    · rw [node_ext hdb hmem hc]
      exact .refl _
    · rw [applyBlock_ahead P n₁ n₂ _ hdb hmem hc ht]
      exact .refl _
  | restart =>
    show AheadOf P ch (restart P n₁) (restart P n₂)
    rw [restart_congr hdb]
    exact .refl _
  | aborted t =>
    -- at most the cache has moved, to where the complete iteration takes it
    cases t with
    | false => exact ⟨hdb, hmem, hcache⟩
    | true =>
      show AheadOf P ch { n₁ with cache := touchCache P n₁ (ch (n₁.mem + 1)) } n₂
      refine ⟨hdb, hmem, Or.inr ?_⟩
      rcases hcache with hc | ⟨hc, ht⟩
      · cases node_ext hdb hmem hc
        exact ⟨rfl, hve rfl⟩
      · rw [hmem]
        exact ⟨(touchCache_again hdb hc).1, ht⟩

/-- the two nodes of the erasure argument: same ledger and sync height (the version tables may differ
    by back-fill rows), both with consistent bookkeeping -/
structure SameLedger (P : Params) (lo : Nat) (n₁ n₂ : Node) : Prop where
  db : ∃ A, n₁.db = { n₂.db with syncVersions := A }
  mem : n₁.mem = n₂.mem
  ord₁ : InOrder P lo n₁
  ord₂ : InOrder P lo n₂

namespace SameLedger
variable {P : Params} {ch : Nat → Block} {lo : Nat} {n₁ n₂ : Node}

theorem ledger (h : SameLedger P lo n₁ n₂) : n₁.db.ledger = n₂.db.ledger ∧ n₁.mem = n₂.mem :=
  ⟨h.db.elim fun _ hA => ledger_eq_of_sv hA, h.mem⟩

theorem attempt (hch : ∀ h, (ch h).height = h) (h : SameLedger P lo n₁ n₂)
    (hav : ∀ c, blockTx P c (ch (n₁.mem + 1)) (pricingAvgs P n₁ (ch (n₁.mem + 1))) =
      blockTx P c (ch (n₁.mem + 1)) (pricingAvgs P n₂ (ch (n₁.mem + 1)))) :
    SameLedger P lo (stepEv P ch n₁ .attempt) (stepEv P ch n₂ .attempt) := by
  obtain ⟨A, hA⟩ := h.db
  -- the height bump meets the same key situation in both version tables: no row of the next height
  have hg : A.any (·.1 == (ch (n₁.mem + 1)).height) = n₂.db.syncVersions.any (·.1 == (ch (n₁.mem + 1)).height) := by
    have a1 := h.ord₁.no_next
    have a2 := h.ord₂.no_next
    rw [hA] at a1
    rw [← h.mem] at a2
    rw [hch]
    exact a1.trans a2.symm
  obtain ⟨hA', hm', _⟩ := applyBlock_sv_blind_of n₁ n₂ (ch (n₁.mem + 1)) A hA h.mem hg hav
  rw [stepEv, stepEv, ← h.mem]
  exact ⟨hA', hm', inOrder_attempt _ (hch _) h.ord₁, inOrder_attempt _ (by rw [hch, h.mem]) h.ord₂⟩

theorem aborted (h : SameLedger P lo n₁ n₂) (t : Bool) : SameLedger P lo (stepEv P ch n₁ (.aborted t)) n₂ := by
  obtain ⟨A, hA⟩ := h.db
  exact ⟨⟨A, by rw [stepEv_aborted_db]; exact hA⟩, by rw [stepEv_aborted_mem]; exact h.mem,
    h.ord₁.congr (stepEv_aborted_db ..) (stepEv_aborted_mem ..), h.ord₂⟩

theorem restarted (h : SameLedger P lo n₁ n₂) : SameLedger P lo (stepEv P ch n₁ .restart) n₂ := by
  obtain ⟨A, hA⟩ := h.db
  exact ⟨⟨backfill P.forks n₁.db.synced n₁.db.syncVersions, by simp only [stepEv, restart, hA]⟩,
    h.ord₁.synced.trans h.mem, inOrder_restart h.ord₁, h.ord₂⟩

end SameLedger

/-- **Crash consistency / restart independence below PIP-10.** Take any run of the daemon —
    iterations that complete, iterations cut short by faults or kills, restarts — and erase
    everything except the completed iterations: the ledger (every table; the version table may
    differ by the legacy back-fill rows a restart writes) and the sync height are the same. -/
theorem only_attempts_matter (P : Params) (ch : Nat → Block) (hch : ∀ h, (ch h).height = h) (lo : Nat)
    (es : List Ev) (n₁ n₂ : Node) (A : VRows) (hdb : n₁.db = { n₂.db with syncVersions := A }) (hmem : n₁.mem = n₂.mem)
    (h1 : InOrder P lo n₁) (h2 : InOrder P lo n₂) (hb : BelowPip10 P ch n₁ es) :
    (runEvs P ch n₁ es).db.ledger = (runEvs P ch n₂ (es.filter Ev.isAttempt)).db.ledger ∧
    (runEvs P ch n₁ es).mem = (runEvs P ch n₂ (es.filter Ev.isAttempt)).mem := by
  refine (runEvs_erase Ev.isAttempt (Sim := SameLedger P lo) (Hd := fun n _ => n.mem + 1 < P.act.pip10)
    (fun _ _ _ h => h) ?_ es n₁ n₂ ⟨⟨A, hdb⟩, hmem, h1, h2⟩ hb).ledger
  intro n₁ n₂ e h hlt
  cases e with
  | attempt => exact h.attempt hch fun c => blockTx_avgs c _ _ _ (by rw [hch]; exact hlt)
  | aborted t => exact h.aborted t
  | restart => exact h.restarted

theorem attempts_are_runBlocks (P : Params) (ch : Nat → Block) (k : Nat) (n : Node) :
    ∃ blocks, runEvs P ch n (List.replicate k .attempt) = runBlocks P n blocks := by
  induction k generalizing n with
  | zero => exact ⟨[], rfl⟩
  | succ k ih =>
    obtain ⟨bs, hbs⟩ := ih (stepEv P ch n .attempt)
    exact ⟨ch (n.mem + 1) :: bs, by rw [List.replicate_succ]; show runEvs P ch (stepEv P ch n .attempt) _ = _; rw [hbs]; rfl⟩

end Pegnet

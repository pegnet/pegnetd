import Proofs.Chain
import Proofs.Effect
/-
  C05, block level: whose balance can a block decrease?
  The relation "no balance of an address outside `A` decreases" holds for `AddToBalance`
  unconditionally and for `SubFromBalance a …` whenever `a ∈ A`; the structural theorem
  `blockTx_stepA` then asks, call site by call site, that the debited address is in `A` — and
  the call sites are: the input address of a batch that passed `Validate` at this height
  (arriving or from holding), and the special addresses of the scheduled adjustments.
-/
namespace Pegnet

def noDebitOutside (A : Addr → Prop) : Rel DB where
  r s s' := ∀ a, ¬ A a → ∀ t, s.bal a t ≤ s'.bal a t
  refl _ _ _ _ := Int.le_refl _
  trans _ _ _ h1 h2 a ha t := Int.le_trans (h1 a ha t) (h2 a ha t)

theorem noDebit_keep (A : Addr → Prop) (s s' : DB) (e : s'.addrs = s.addrs) : (noDebitOutside A).r s s' := by
  intro a _ t
  unfold DB.bal
  rw [e]
  exact Int.le_refl _

theorem addBal_noDebit (P : Params) (A : Addr → Prop) (a : Addr) (t : Ticker) (v : Nat) :
    Step (noDebitOutside A) (addBal P a t v) :=
  Step.guarded fun s a' _ t' => by
    show s.bal a' t' ≤ _
    rw [bal_upsertAdd]
    refine Int.le_add_of_nonneg_right ?_
    split
    · exact Int.natCast_nonneg v
    · exact Int.le_refl 0

theorem subBal_noDebit (P : Params) (A : Addr → Prop) (a : Addr) (t : Ticker) (v : Nat) (ha : A a) :
    Step (noDebitOutside A) (subBal P a t v) := by
  have hdeb : Step (noDebitOutside A) (debit a t v) :=
    Step.guarded (fun s a' ha' t' => by
      have hne : a' ≠ a := fun h => ha' (h ▸ ha)
      show s.bal a' t' ≤ _
      rw [bal_updRow, if_neg fun h => hne h.1]
      exact Int.le_refl _)
  exact subBal_step_of P a t v (addBal_noDebit P A a t 0) hdeb

theorem primsOK_noDebit (P : Params) (h : Nat) (A : Addr → Prop) : PrimsOK P h (noDebitOutside A) A :=
  primsOK_of_obs (·.addrs) (noDebit_keep A) (addBal := fun a t v => addBal_noDebit P A a t v) (subBal := fun a t v => subBal_noDebit P A a t v)

/-- the addresses block `b`, applied on the committed database `c`, is entitled to debit -/
def Debitable (P : Params) (c : DB) (b : Block) (a : Addr) : Prop :=
  (∃ es, b.txs = some es ∧ ∃ e ∈ es, e.validAt P b.height = true ∧ ∃ t ∈ e.txs, t.inAddr = a) ∨
  (∃ row ∈ c.holding, row.entry.validAt P b.height = true ∧ ∃ t ∈ row.entry.txs, t.inAddr = a) ∨
  (b.height = P.act.v204Burn ∧ a = P.mintAddr) ∨
  ((b.height = P.act.devRewards ∨ b.height = P.act.v202) ∧
    a = (if b.height < P.act.v202 then P.oldBurnAddr else P.burnAddr))

theorem authOK_debitable (P : Params) (c : DB) (b : Block) :
    AuthOK P (noDebitOutside (Debitable P c b)) (Debitable P c b) c b where
  log _ := guarded_keep (·.addrs) (noDebit_keep _) (fun _ => rfl)
  comps := histComps_of_prims (primsOK_noDebit P b.height (Debitable P c b)) (fun _ => trivial) trivial
  txs es hes e he hv t ht := Or.inl ⟨es, hes, e, he, hv, t, ht, rfl⟩
  held row hrow hv t ht := Or.inr (Or.inl ⟨row, hrow, hv, t, ht, rfl⟩)
  mint hb := Or.inr (Or.inr (Or.inl ⟨hb, rfl⟩))
  burn hb := Or.inr (Or.inr (Or.inr ⟨hb, rfl⟩))

/-- **Only the key holder can cause a debit.** If applying a block lowers some balance of an
    address (whether the block then commits or fails), the address is the input address of a batch
    — on the transaction chain in this block, or waiting in holding — that passes `Validate` at
    this height (well-formed, single input address, signature of the input address' key valid
    under the key types accepted at this height), or it is one of the three special addresses at
    the height of its scheduled adjustment. -/
theorem blockTx_debits_only_debitable (P : Params) (c : DB) (b : Block) (avgs : TMap) (s : DB) (a : Addr) (t : Ticker)
    (hdec : (blockTx P c b avgs s).state.bal a t < s.bal a t) : Debitable P c b a :=
  Classical.byContradiction fun hA => Int.not_lt.2
    ((blockTx_stepA c b avgs (primsOK_noDebit P b.height (Debitable P c b)) (authOK_debitable P c b)).run s a hA t) hdec

theorem applyBlock_debits_only_debitable (P : Params) (n : Node) (b : Block) (a : Addr) (t : Ticker)
    (hdec : (applyBlock P n b).1.db.bal a t < n.db.bal a t) :
    Debitable P { n.db with avgTouched := false } b a := by
  rcases applyBlock_cases P n b with ⟨_, _, h, _⟩ | ⟨s', avgs, hs, hdb, _⟩
  · rw [h] at hdec
    exact absurd hdec (Int.lt_irrefl _)
  · rw [hdb] at hdec
    exact blockTx_debits_only_debitable P _ b avgs { n.db with avgTouched := false } a t (by rw [hs]; exact hdec)

end Pegnet

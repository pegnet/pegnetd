import Proofs.Hoare
/-
  `Built L v m`: the program `m` is assembled from the leaf programs `L` by `pure`, `throw` and `>>=`, and
  whenever it reads the state it uses what it read only through the view `v`.  A judgement on programs
  that is closed under these combinators holds of `m` as soon as it holds of the leaves: one induction per
  judgement (`Built.step`, `Built.stepOk`, and `Built.step2` in Proofs/NonInterference), instead of one walk
  through the model per judgement.

  There is no constructor for `M.swallow`: a judgement about successful runs only (`StepOk`) is not closed
  under it.  Where the model swallows an error the structural lemmas ask that the leaves be closed under
  swallowing what is built (`hsw`), which `Step` and `Step2` are.
-/
namespace Pegnet

inductive Built {σ : Type} (L : ∀ {α : Type}, M σ α → Prop) (v : σ → σ) : ∀ {α : Type}, M σ α → Prop
  | leaf {α : Type} {m : M σ α} : L m → Built L v m
  | pure {α : Type} (a : α) : Built L v (Pure.pure a : M σ α)
  | throw {α : Type} (e : Failure) : Built L v (M.throw e : M σ α)
  | bind {α β : Type} {m : M σ α} {f : α → M σ β} : Built L v m → (∀ a, Built L v (f a)) → Built L v (m >>= f)
  | read {β : Type} {f : σ → M σ β} : (∀ s, f (v s) = f s) → (∀ c, Built L v (f c)) → Built L v (M.get >>= f)

namespace Built
variable {σ : Type} {L : ∀ {α : Type}, M σ α → Prop} {v : σ → σ} {α β : Type}

theorem ite' {c : Prop} [Decidable c] {a b : M σ α} (ha : c → Built L v a) (hb : ¬ c → Built L v b) :
    Built L v (if c then a else b) := by
  split
  · exact ha ‹_›
  · exact hb ‹_›

theorem ite {c : Prop} [Decidable c] {a b : M σ α} (ha : Built L v a) (hb : Built L v b) :
    Built L v (if c then a else b) :=
  ite' (fun _ => ha) fun _ => hb

/-- what `if c then m` followed by `k` in a `do` block elaborates to -/
theorem whenThen {c : Prop} [Decidable c] {m : M σ PUnit} {k : M σ α} (hm : Built L v m) (hk : Built L v k) :
    Built L v (if c then m >>= fun _ => k else k) :=
  ite (bind hm fun _ => hk) hk

theorem forEach_mem {l : List α} {f : α → M σ Unit} (hf : ∀ a ∈ l, Built L v (f a)) : Built L v (M.forEach l f) := by
  induction l with
  | nil => exact pure ()
  | cons x xs ih => exact bind (hf x List.mem_cons_self) fun _ => ih fun a ha => hf a (List.mem_cons_of_mem _ ha)

theorem forEach {l : List α} {f : α → M σ Unit} (hf : ∀ a, Built L v (f a)) : Built L v (M.forEach l f) :=
  forEach_mem fun a _ => hf a

theorem forEachIdx_mem {l : List α} {f : Nat → α → M σ Unit} (hf : ∀ i, ∀ a ∈ l, Built L v (f i a)) :
    Built L v (M.forEachIdx l f) :=
  forEach_mem fun p hp => hf p.2 p.1 (List.fst_mem_of_mem_zipIdx hp)

theorem foldM_mem {f : β → α → M σ β} {l : List α} {b : β} (hf : ∀ b, ∀ a ∈ l, Built L v (f b a)) :
    Built L v (M.foldM f b l) := by
  induction l generalizing b with
  | nil => exact pure b
  | cons x xs ih => exact bind (hf b x List.mem_cons_self) fun _ => ih fun b a ha => hf b a (List.mem_cons_of_mem _ ha)

theorem foldM {f : β → α → M σ β} {l : List α} {b : β} (hf : ∀ b a, Built L v (f b a)) : Built L v (M.foldM f b l) :=
  foldM_mem fun b a _ => hf b a

theorem step {R : Rel σ} {m : M σ α} (h : Built (Step R) v m) : Step R m := by
  induction h with
  | leaf h => exact h
  | pure a => exact Step.pure a
  | throw e => exact Step.throw e
  | bind _ _ ih1 ih2 => exact Step.bind ih1 ih2
  | read _ _ ih => exact Step.bind Step.get ih

theorem stepOk {v : DB → DB} {R : Rel DB} {m : LM α} (h : Built (StepOk R) v m) : StepOk R m := by
  induction h with
  | leaf h => exact h
  | pure a => exact StepOk.pure a
  | throw e => exact StepOk.throw e
  | bind _ _ ih1 ih2 => exact StepOk.bind ih1 ih2
  | read _ _ ih => exact StepOk.bind StepOk.get ih

end Built

end Pegnet

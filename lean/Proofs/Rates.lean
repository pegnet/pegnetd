import Proofs.Hoare
/-
  C12: what its statements are about — the rows `InsertRates` writes (`rateRows`, `pegPrice`), the
  asset list a block's rates are taken from (`selectedAssets`) — and the two parts of the grading
  step: the loop over the non-PEG assets, and `insertGradeBlock`, which writes no rate row.
-/
namespace Pegnet

/-- the PEG price `InsertRates` records (grading.go:78-135) -/
def pegPrice (P : Params) (c : DB) (assets : List (String × Nat)) (phase : Phase) : Nat :=
  let pegIn := match (assets.filter (·.1 == "PEG")).getLast? with | some a => a.2 | none => 0
  match phase with
  | .zero => 0
  | .floating => pegIn
  | .equation =>
    let cap : Nat := (assets.map fun a =>
      if a.1 == "PEG" then 0 else (c.supply (stringToTicker P ("p" ++ a.1))).toNat * a.2).sum
    let iss := (c.supply tPEG).toNat
    if iss = 0 then 0 else (cap / iss) % 18446744073709551616

/-- the rows `InsertRates` writes for an asset list: one `p<NAME>` row per non-PEG asset, in
    list order, then the PEG row -/
def rateRows (P : Params) (c : DB) (h : Nat) (assets : List (String × Nat)) (phase : Phase) : List RateRow :=
  (assets.filter (fun a => !(a.1 == "PEG"))).map (fun a => { height := h, token := "p" ++ a.1, value := a.2 }) ++
    [{ height := h, token := "PEG", value := pegPrice P c assets phase }]

theorem forEach_insert_nonpeg (h : Nat) (assets : List (String × Nat)) (s s' : DB)
    (hr : M.forEach assets (fun a => if a.1 == "PEG" then (pure () : LM Unit) else insertRate h ("p" ++ a.1) a.2) s = .ok () s') :
    s' = { s with rates := s.rates ++
      (assets.filter (fun a => !(a.1 == "PEG"))).map (fun a => { height := h, token := "p" ++ a.1, value := a.2 }) } := by
  induction assets generalizing s with
  | nil =>
    rw [(M.pure_ok hr).2]
    simp
  | cons a rest ih =>
    obtain ⟨_, s1, h1, h2⟩ := M.bind_ok (m := if a.1 == "PEG" then (pure () : LM Unit) else insertRate h ("p" ++ a.1) a.2) hr
    rw [ih s1 h2]
    cases hp : a.1 == "PEG" with
    | true =>
      rw [hp] at h1
      rw [(M.pure_ok h1).2]
      simp [hp]
    | false =>
      rw [hp, if_neg Bool.false_ne_true] at h1
      rw [(M.guarded_ok h1).2]
      simp [hp, List.append_assoc]

theorem insertRates_ok {P : Params} {c : DB} {h : Nat} {assets : List (String × Nat)} {phase : Phase} {s s' : DB}
    (hr : insertRates P c h assets phase s = .ok () s') :
    s' = { s with rates := s.rates ++ rateRows P c h assets phase } := by
  unfold insertRates at hr
  obtain ⟨_, s1, h1, h2⟩ := M.bind_ok hr
  rw [(M.guarded_ok h2).2, forEach_insert_nonpeg h assets s s1 h1]
  simp only [rateRows, pegPrice, List.append_assoc]
  rfl

theorem insertGradeBlock_keeps_rates (h : Nat) (keymr : String) (g : OprGraded) :
    Step (keepRel (·.rates)) (insertGradeBlock h keymr g) := by
  unfold insertGradeBlock
  apply Step.bind
  · exact Step.guarded (fun _ => rfl)
  · intro _
    split
    · exact Step.forEach (fun o => Step.guarded (fun _ => rfl))
    · exact Step.pure _

/-- the pricing phase of a height before 2.0 -/
def phaseAt (P : Params) (h : Nat) : Phase :=
  if h ≥ P.act.pegFloat then .floating else if h ≥ P.act.pegPricing then .equation else .zero

/-- the asset list a block's rates are taken from: before 2.0 the winning OPR's; from 2.0 on the
    winning OPR's filtered against the winning SPR's by the band rule of the era -/
def selectedAssets (P : Params) (b : Block) : Option (List (String × Nat)) :=
  let h := b.height
  if h < P.act.v20 then
    match b.opr with
    | .graded g => if g.winners.isEmpty then none else some g.assets
    | _ => none
  else
    let o := match b.opr with | .graded g => if g.winners.isEmpty then [] else g.assets | _ => []
    let s := match b.spr with | .graded g => if g.winners.isEmpty then [] else g.assets | _ => []
    if o.isEmpty && s.isEmpty then none
    else if h < P.act.devRewards then assetRatesV0 o s else assetRates P h o s

theorem gradeAndRates_absent {P : Params} (c : DB) {b : Block} (ho : b.opr = .absent)
    (hs : b.height < P.act.v20 ∨ b.spr = .absent) : gradeAndRates P c b = pure (.cont false) := by
  unfold gradeAndRates
  rw [ho]
  rcases hs with hh | hs
  · exact if_pos hh
  · rw [hs]
    exact ite_self _

end Pegnet

import Proofs.Averages
/-
  What the averaging cache holds, ticker by ticker.

  One collection step turns the series of ticker `t` into `trimTo N (series) ++ quote`
  (`collectAt_series`, Proofs/Averages). The reload path therefore builds, from nothing, the quotes of the
  height window `[start, height]` (`reload_fold`: no trim is ever effective inside a window of at
  most N heights), while the incremental path trims the stored series by COUNT. The two agree when
  the window has no hole: `incremental_is_window`.
-/
namespace Pegnet

/-- the quotes of `k` consecutive heights from `a`, oldest first -/
def cat (q : Nat → List Nat) (a : Nat) : Nat → List Nat
  | 0 => []
  | k + 1 => cat q a k ++ q (a + k)

theorem cat_length (q : Nat → List Nat) (hq : ∀ g, (q g).length ≤ 1) (a k : Nat) : (cat q a k).length ≤ k := by
  induction k with
  | zero => exact Nat.le_refl 0
  | succ k ih => rw [cat, List.length_append]; exact Nat.add_le_add ih (hq _)

theorem cat_length_full (q : Nat → List Nat) (a k : Nat) (h : ∀ i, i < k → (q (a + i)).length = 1) :
    (cat q a k).length = k := by
  induction k with
  | zero => rfl
  | succ k ih =>
    rw [cat, List.length_append, ih (fun i hi => h i (Nat.lt_succ_of_lt hi)), h k (Nat.lt_succ_self k)]

theorem cat_shift (q : Nat → List Nat) (a k : Nat) : cat q a (k + 1) = q a ++ cat q (a + 1) k := by
  induction k with
  | zero => simp [cat]
  | succ k ih => rw [cat, ih, cat, List.append_assoc, Nat.add_right_comm a 1 k]; rfl

theorem cat_congr {q q' : Nat → List Nat} (a k : Nat) (h : ∀ i, i < k → q (a + i) = q' (a + i)) :
    cat q a k = cat q' a k := by
  induction k with
  | zero => rfl
  | succ k ih => rw [cat, cat, ih (fun i hi => h i (Nat.lt_succ_of_lt hi)), h k (Nat.lt_succ_self k)]

theorem reload_fold (n : Nat) (q : Nat → List Nat) (hq : ∀ g, (q g).length ≤ 1) (a k : Nat) (hk : k ≤ n) :
    (List.range k).foldl (fun l i => trimTo n l ++ q (a + i)) [] = cat q a k := by
  induction k with
  | zero => rfl
  | succ k ih =>
    rw [List.range_succ, List.foldl_append, ih (Nat.le_of_succ_le hk)]
    exact congrArg (· ++ q (a + k)) (trimTo_short (Nat.lt_of_le_of_lt (cat_length q hq a k) hk))

theorem quoted_from (q : Nat → List Nat) (a k : Nat)
    (hc : ∀ i, i + 1 < k → q (a + i) ≠ [] → q (a + i + 1) ≠ []) (h0 : q a ≠ []) :
    ∀ i, i < k → q (a + i) ≠ [] := by
  intro i
  induction i with
  | zero => intro _; exact h0
  | succ i ih => intro hi; exact hc i hi (ih (Nat.lt_of_succ_lt hi))

/-- **count trim = height trim on a window without holes** -/
theorem trim_window (n : Nat) (hn : 0 < n) (q : Nat → List Nat) (hq : ∀ g, (q g).length ≤ 1) (a : Nat)
    (hc : ∀ i, i + 1 < n → q (a + i) ≠ [] → q (a + i + 1) ≠ []) :
    trimTo n (cat q a n) = cat q (a + 1) (n - 1) := by
  obtain ⟨m, rfl⟩ : ∃ m, n = m + 1 := ⟨n - 1, (Nat.sub_add_cancel hn).symm⟩
  rw [Nat.add_sub_cancel]
  by_cases h0 : q a = []
  · -- the oldest height has no quote: the window is short of `n` values and is not trimmed
    rw [cat_shift, h0, List.nil_append, trimTo_short (Nat.lt_succ_of_le (cat_length q hq (a + 1) m))]
  · -- every height is quoted: `n` values, the trim drops the one quote of the oldest height
    have h1 : ∀ i, i < m + 1 → (q (a + i)).length = 1 := fun i hi =>
      Nat.le_antisymm (hq _) (List.length_pos_iff.2 (quoted_from q a (m + 1) hc h0 i hi))
    obtain ⟨x, hx⟩ := List.length_eq_one_iff.1 (h1 0 (Nat.succ_pos m))
    rw [trimTo_full hn (cat_length_full q a (m + 1) h1), cat_shift, show q a = [x] from hx]
    rfl

theorem window_step (n : Nat) (hn : 0 < n) (q : Nat → List Nat) (hq : ∀ g, (q g).length ≤ 1) (H : Nat)
    (hh : n ≤ H → ∀ i, i + 1 < n → q (H + 1 - n + i) ≠ [] → q (H + 1 - n + i + 1) ≠ []) :
    trimTo n (cat q (startOf n H) (H + 1 - startOf n H)) ++ q (H + 1)
      = cat q (startOf n (H + 1)) (H + 1 + 1 - startOf n (H + 1)) := by
  by_cases hH : n ≤ H
  · -- the window of `H` starts at `H + 1 - n`, where `hh` speaks of it, and is full
    have h1 := Nat.le_succ_of_le hH
    rw [startOf_of_ge hH, startOf_of_ge h1, Nat.sub_sub_self h1, Nat.sub_sub_self (Nat.le_succ_of_le h1),
      trim_window n hn q hq _ (hh hH), Nat.sub_add_comm h1]
    obtain ⟨m, rfl⟩ : ∃ m, n = m + 1 := ⟨n - 1, (Nat.sub_add_cancel hn).symm⟩
    rw [Nat.add_sub_cancel, cat, Nat.add_assoc, Nat.add_comm 1 m, Nat.sub_add_cancel h1]
  · rw [startOf_of_le (Nat.le_of_not_le hH), startOf_of_le (Nat.succ_le_of_lt (Nat.lt_of_not_le hH)),
      Nat.add_sub_cancel, Nat.add_sub_cancel,
      trimTo_short (Nat.lt_of_le_of_lt (cat_length q hq 1 H) (Nat.lt_of_not_le hH)), cat, Nat.add_comm 1 H]

/-- the quotes of the height window the reload path reads for `H`: heights `[H+1-N, H]` (from 1) -/
def window (P : Params) (db : DB) (H : Nat) (t : Ticker) : List Nat :=
  cat (fun g => quoteAt P db g t) (startOf P.avgPeriod H) (H + 1 - startOf P.avgPeriod H)

theorem window_length (P : Params) (db : DB) (H : Nat) (t : Ticker) : (window P db H t).length ≤ P.avgPeriod :=
  Nat.le_trans (cat_length _ (fun g => quoteAt_length P db g t) _ _) (startOf_count_le _ _)

theorem window_congr (P : Params) (db db' : DB) (H : Nat) (t : Ticker)
    (h : ∀ g, g ≤ H → db'.ratesAt g = db.ratesAt g) : window P db' H t = window P db H t :=
  cat_congr _ _ fun _ hi => by
    unfold quoteAt
    rw [h _ (Nat.le_of_lt_succ (Nat.add_lt_of_lt_sub' hi))]

/-- the heights at which `t` is quoted form a final segment of the window of `H`: inside it a quoted height is
    never followed by an unquoted one (only asked of full windows, `H ≥ N`) -/
def NoHole (P : Params) (db : DB) (H : Nat) (t : Ticker) : Prop :=
  P.avgPeriod ≤ H → ∀ i, i + 1 < P.avgPeriod →
    quoteAt P db (H + 1 - P.avgPeriod + i) t ≠ [] → quoteAt P db (H + 1 - P.avgPeriod + i + 1) t ≠ []

theorem incremental_is_window (P : Params) (hp : 0 < P.avgPeriod) (db : DB) (H : Nat) (t : Ticker)
    (hh : NoHole P db H t) :
    trimTo P.avgPeriod (window P db H t) ++ quoteAt P db (H + 1) t = window P db (H + 1) t :=
  window_step P.avgPeriod hp (fun g => quoteAt P db g t) (fun g => quoteAt_length P db g t) H hh

/-- the CONTENT of the cache (`CacheOK` is its form): for every ticker, the quotes of the height window of its height -/
def CacheSem (P : Params) (db : DB) (c : AvgCache) : Prop := ∀ t, series c.data t = window P db c.height t

theorem cacheSem_empty (P : Params) (db : DB) : CacheSem P db {} := by
  intro t
  show [] = cat _ (startOf P.avgPeriod 0) (0 + 1 - startOf P.avgPeriod 0)
  rw [Nat.sub_eq_zero_of_le (startOf_pos _ _)]
  rfl

theorem series_nextData (P : Params) (db : DB) (c : AvgCache) (height : Nat) (t : Ticker) :
    series (nextData P db c height) t =
      if c.height + 1 = height then trimTo P.avgPeriod (series c.data t) ++ quoteAt P db height t
      else window P db height t := by
  fun_cases nextData P db c height
  case case1 h =>
    rw [if_pos h]
    exact collectAt_series P db c.data height t
  case case2 h =>
    -- read at `t`, the reload loop over caches is the loop `l ↦ trimTo N l ++ quote` over one series
    rw [if_neg h, ← List.foldl_hom (series · t)
        (g₂ := fun l i => trimTo P.avgPeriod l ++ quoteAt P db (startOf P.avgPeriod height + i) t)
        fun d i => (collectAt_series P db d _ t).symm,
      series_map (fun _ => []) rfl,
      reload_fold P.avgPeriod _ (fun g => quoteAt_length P db g t) _ _ (startOf_count_le _ _)]
    rfl

/-- **`GetPegNetRateAverages` keeps the cache on the window**: the cached answer, the reload and —
    when the window it starts from has no hole — the incremental step all leave, for every ticker,
    the quotes of the height window of the height asked for -/
theorem getAverages_sem (P : Params) (hp : 0 < P.avgPeriod) (db : DB) (c : AvgCache) (height : Nat)
    (hc : CacheSem P db c) (hh : c.height + 1 = height → ∀ t, NoHole P db c.height t) :
    CacheSem P db (getAverages P db c height).1 ∧ (getAverages P db c height).1.height = height := by
  by_cases h : c.height = height
  · rw [getAverages_hit h]; exact ⟨hc, h⟩
  · rw [getAverages_miss h]
    refine ⟨fun t => ?_, rfl⟩
    show series (nextData P db c height) t = window P db height t
    rw [series_nextData]
    split
    · rename_i e
      subst e
      rw [hc t]
      exact incremental_is_window P hp db c.height t (hh rfl t)
    · rfl

end Pegnet

import Proofs.Tot
import Proofs.Precheck
/-
  C08: executing a batch — transfers, ordinary conversions, PEG requests — never fails the block.
  A batch that passed the funds checks is recorded (`recordBatch_succeeds`: the pre-check rules out
  "insufficient balance", `PlainTx` every other failure), and the verdict on a batch that has rates
  for its conversions is never a block-failing error (`verdict_cases`).
-/
namespace Pegnet

/-- a program that succeeds from every state: `Tot` with nothing assumed and nothing promised (`Safe.tot`) -/
def Safe {α} (m : LM α) : Prop := ∀ s, ∃ a s', m s = .ok a s'

namespace Safe
variable {α β : Type}

theorem tot {m : LM α} : Safe m ↔ Tot (fun _ => True) m (fun _ _ => True) :=
  ⟨fun h s _ => have ⟨a, s', e⟩ := h s; ⟨a, s', e, trivial⟩, fun h s => have ⟨a, s', e, _⟩ := h s trivial; ⟨a, s', e⟩⟩

theorem pure (a : α) : Safe (Pure.pure a : LM α) := tot.2 (Tot.pure a)
theorem get : Safe (M.get : LM DB) := tot.2 Tot.get

theorem bind {m : LM α} {f : α → LM β} (hm : Safe m) (hf : ∀ a, Safe (f a)) : Safe (m >>= f) :=
  tot.2 (Tot.bind (tot.1 hm) fun a => tot.1 (hf a))

theorem guarded {g : DB → Option Failure} {u : DB → DB} (hg : ∀ s, g s = none) : Safe (M.guarded g u) :=
  tot.2 (Tot.guarded fun s _ => ⟨hg s, trivial⟩)

theorem forEach {l : List α} {f : α → LM Unit} (hf : ∀ a ∈ l, Safe (f a)) : Safe (M.forEach l f) :=
  tot.2 (Tot.forEach fun a ha => tot.1 (hf a ha))

end Safe

theorem addBal_safe (P : Params) (a : Addr) (t : Ticker) (v : Nat) (ht : validTicker P t = true) (hv : v ≤ maxInt64) :
    Safe (addBal P a t v) :=
  Safe.guarded (fun _ => by simp [ht]; omega)

theorem subBal_safe (P : Params) (a : Addr) (t : Ticker) (v : Nat) (ht : validTicker P t = true) (hv : v ≤ maxInt64) :
    Safe (subBal P a t v) := by
  fun_cases subBal P a t v
  case case1 => exact Safe.bind (addBal_safe P a t 0 ht (Nat.zero_le _)) (fun _ => Safe.pure true)
  case case2 hn => rw [ht] at hn; cases hn
  case case3 =>
    refine Safe.bind Safe.get fun db => ?_
    split
    · exact Safe.pure false
    · exact Safe.bind (Safe.guarded (fun _ => by simp; omega)) (fun _ => Safe.pure true)

/-- what the decoder and `Validate` guarantee of any transaction; `PlainTransfer` (Proofs/Liveness) is the case
    "no conversions" -/
structure PlainTx (P : Params) (t : Tx) : Prop where
  ticker : validTicker P t.inType = true
  input : t.inAmount ≤ maxInt64
  outputs : ∀ tr ∈ t.transfers, tr.amount ≤ maxInt64
  pegIsConv : t.isPEGRequest = true → t.isConversion P = true

theorem recordOutputs_safe (P : Params) (h : Nat) (hash : Hash) (rates avgs : Option TMap) (idx : Nat) (t : Tx)
    (hpl : PlainTx P t) (hcv : t.isConversion P = true → ∃ out, convOf P h rates avgs t = some out) :
    Safe (recordOutputs P h hash rates avgs idx t) := by
  have hno : t.isConversion P = true → convOf P h rates avgs t ≠ none := fun hc hn => by
    obtain ⟨_, ho⟩ := hcv hc
    rw [hn] at ho
    cases ho
  fun_cases recordOutputs P h hash rates avgs idx t
  case case1 hpeg hn => exact absurd hn (hno (hpl.pegIsConv hpeg.2))
  case case2 => exact Safe.pure ()
  case case3 hc hn => exact absurd hn (hno hc)
  case case4 hc out hout =>
    have hvt : validTicker P t.conversion = true := by
      unfold Tx.isConversion at hc
      unfold validTicker
      simp only [Bool.and_eq_true, decide_eq_true_eq] at hc ⊢
      exact ⟨hc.1.2, hc.2⟩
    exact Safe.bind (Safe.guarded (fun _ => rfl)) (fun _ => addBal_safe P _ _ _ hvt (Int.toNat_le.2 (convert_le hout)))
  case case5 =>
    refine Safe.forEach fun tr htr => ?_
    split
    · exact Safe.pure ()
    · exact Safe.bind (addBal_safe P tr.addr t.inType tr.amount hpl.ticker (hpl.outputs tr htr)) (fun _ => Safe.guarded (fun _ => rfl))

theorem recordTx_fail_short (P : Params) (h : Nat) (hash : Hash) (rates avgs : Option TMap) (idx : Nat) (t : Tx)
    (hpl : PlainTx P t) (hcv : t.isConversion P = true → ∃ out, convOf P h rates avgs t = some out)
    (s s' : DB) (e : Failure) (hr : recordTx P h hash rates avgs idx t s = .fail e s') :
    e = .uncaught "insufficient balance" := by
  unfold recordTx at hr
  rcases M.bind_fail hr with hs | ⟨ok, s1, _, hf⟩
  · obtain ⟨_, _, h1⟩ := subBal_safe P t.inAddr t.inType t.inAmount hpl.ticker hpl.input s
    rw [h1] at hs
    cases hs
  · cases ok with
    | false =>
      cases hf
      rfl
    | true =>
      -- with the funds taken, nothing in the rest of `recordTx` can fail
      obtain ⟨_, _, h2⟩ := Safe.bind (Safe.guarded fun _ => rfl) (fun _ => Safe.bind (Safe.guarded fun _ => rfl)
        fun _ => recordOutputs_safe P h hash rates avgs idx t hpl hcv) s1
      cases h2.symm.trans hf

theorem recordBatch_succeeds (P : Params) (h : Nat) (hash : Hash) (rates avgs : Option TMap) (a : Addr)
    (hb : a ≠ burnAddrAt P h) (txs : List Tx) (s : DB) (hall : ∀ t ∈ txs, t.inAddr = a)
    (hplain : ∀ t ∈ txs, PlainTx P t)
    (hp : pass2 P h rates avgs (s.balances a) txs = none) :
    ∃ s', recordBatch P h hash rates avgs txs s = .ok () s' := by
  cases hr : recordBatch P h hash rates avgs txs s with
  | ok u s' => exact ⟨s', rfl⟩
  | fail e s' =>
    -- the failing transaction fails for lack of funds, which the pre-check has ruled out
    have hne := recordBatch_never_short P h hash rates avgs a hb txs s hall hp e s' hr
    unfold recordBatch M.forEachIdx at hr
    obtain ⟨p, hpm, s0, hf⟩ := M.forEach_fail hr
    have ht := List.fst_mem_of_mem_zipIdx hpm
    exact absurd (recordTx_fail_short P h hash rates avgs p.2 p.1 (hplain p.1 ht)
      ((pass2_cases _ txs).1 hp p.1 ht) s0 s' e hf) hne

def Verdict.harmless : Verdict → Prop
  | .apply => True
  | .reject _ => True
  | .dropped => True
  | .failBlock _ => False

/-- **The verdict on a batch that has rates for the conversions it holds** is never a block-failing
    error: the first loop finds every conversion computable or stops with a tolerated verdict, and
    then the cumulative pass can only accept or reject for funds. On a batch without conversions it is
    "apply" or "no funds". -/
theorem verdict_cases (P : Params) (db : DB) (h : Nat) (rates avgs : Option TMap) (txs : List Tx)
    (hr : ∀ t ∈ txs, t.isConversion P = true → ∃ r, rates = some r ∧ r.isEmpty = false) :
    (verdict P db h rates avgs txs).harmless ∧
    ((∀ t ∈ txs, t.isConversion P = false) →
      verdict P db h rates avgs txs = .apply ∨ verdict P db h rates avgs txs = .reject (-1)) := by
  fun_cases verdict P db h rates avgs txs
  case case1 => exact ⟨trivial, fun _ => .inl rfl⟩
  case case2 v h1 =>
    rw [h1]
    obtain ⟨t, ht, hv⟩ := pass1_some h1
    obtain ⟨_, hx, hnf⟩ := pass1Tx_cases hv
    refine ⟨?_, fun hnc => .inr (hx (hnc t ht))⟩
    cases v with
    | failBlock f => exact absurd rfl (hnf (hr t ht) f)
    | _ => trivial
  case case3 v h1 h2 =>
    rw [h1, h2]
    -- the first loop found every conversion computable: the second can only reject for funds
    rcases (pass2_cases _ _).2 v h2 with rfl | ⟨_, t, ht, hct, hn⟩
    · exact ⟨trivial, fun _ => .inr rfl⟩
    · obtain ⟨_, hout⟩ := (pass1Tx_cases (pass1_none h1 t ht)).2 hct
      rw [hn] at hout
      cases hout
  case case4 h1 h2 =>
    rw [h1, h2]
    exact ⟨trivial, fun _ => .inl rfl⟩

theorem verdict_harmless (P : Params) (db : DB) (h : Nat) (r : TMap) (hr : r.isEmpty = false) (avgs : Option TMap) (txs : List Tx) :
    (verdict P db h (some r) avgs txs).harmless :=
  (verdict_cases P db h (some r) avgs txs fun _ _ _ => ⟨r, rfl, hr⟩).1

theorem applyBatch_of_harmless (P : Params) (h : Nat) (e : TxEntry) (rates avgs : Option TMap) (s : DB)
    (a : Addr) (hb : a ≠ burnAddrAt P h) (hall : ∀ t ∈ e.txs, t.inAddr = a) (hplain : ∀ t ∈ e.txs, PlainTx P t)
    (hh : (verdict P s h rates avgs e.txs).harmless) :
    ∃ s', applyBatch P h e rates avgs s = .ok (verdict P s h rates avgs e.txs) s' := by
  rw [applyBatch_run]
  cases hv : verdict P s h rates avgs e.txs with
  | apply =>
    cases htx : e.txs with
    | nil => exact ⟨{ s with execLog := s.execLog ++ [e.hash] }, rfl⟩
    | cons t0 rest =>
      rw [htx] at hv hall hplain
      have hp2 := (verdict_apply hv).2
      rw [hall t0 List.mem_cons_self] at hp2
      obtain ⟨s', hs'⟩ := recordBatch_succeeds P h e.hash rates avgs a hb (t0 :: rest)
        { s with execLog := s.execLog ++ [e.hash] } hall hplain hp2
      exact ⟨s', by rw [M.bind_run, hs']; rfl⟩
  | reject c => exact ⟨s, rfl⟩
  | dropped => exact ⟨s, rfl⟩
  | failBlock f => rw [hv] at hh; exact hh.elim

theorem applyBatch_total (P : Params) (h : Nat) (e : TxEntry) (r : TMap) (hr : r.isEmpty = false) (avgs : Option TMap) (s : DB)
    (a : Addr) (hb : a ≠ burnAddrAt P h) (hall : ∀ t ∈ e.txs, t.inAddr = a) (hplain : ∀ t ∈ e.txs, PlainTx P t) :
    ∃ v s', applyBatch P h e (some r) avgs s = .ok v s' :=
  have ⟨s', hs'⟩ := applyBatch_of_harmless P h e (some r) avgs s a hb hall hplain (verdict_harmless P s h r hr avgs e.txs)
  ⟨_, s', hs'⟩

/-- **Executing a held batch never fails the block** — whatever it holds (transfers, conversions,
    PEG requests), funded or not, still valid or not: it is applied, rejected with a status, dropped,
    or skipped as a replay. -/
theorem applyHeld_total (P : Params) (h : Nat) (rates avgs : TMap) (hr : rates.isEmpty = false) (e : TxEntry) (s : DB)
    (a : Addr) (hb : a ≠ burnAddrAt P h) (hall : ∀ t ∈ e.txs, t.inAddr = a) (hplain : ∀ t ∈ e.txs, PlainTx P t) :
    ∃ j s', applyHeld P h rates avgs e s = .ok j s' := by
  rw [applyHeld_run]
  by_cases hi : e.heldInvalid P h = true
  · rw [if_pos hi]
    exact ⟨false, _, rfl⟩
  · rw [if_neg hi]
    by_cases hx : s.isReplay e.hash = true
    · rw [if_pos hx]
      exact ⟨false, s, rfl⟩
    · obtain ⟨v, s1, h1⟩ := applyBatch_total P h e rates hr (some avgs) s a hb hall hplain
      rw [if_neg hx, M.bind_run, h1]
      cases v <;> exact ⟨_, _, rfl⟩

end Pegnet

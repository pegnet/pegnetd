import Proofs.Frame
import Proofs.Balances
/-
  Building `PrimsOK` for a relation that looks at the database through one observation `f` (a table, or a
  pair of tables): every primitive that does not write what `f` sees respects the relation for free
  (`primsOK_of_obs`). Then the one-table instances: rate rows of another height, relation rows, the
  balance-table invariant.
-/
namespace Pegnet

theorem guarded_keep {R : Rel DB} {β : Type} (f : DB → β) (hkeep : ∀ s s', f s' = f s → R.r s s')
    {g : DB → Option Failure} {u : DB → DB} (hu : ∀ s, f (u s) = f s) : Step R (M.guarded g u) :=
  Step.guarded (fun s => hkeep s (u s) (hu s))

/-- `R` itself, tagged with an observation `f` that determines it (`hkeep`). A default proof of a parameter is
    elaborated at the call and sees only its goal: the tag puts `f` and `hkeep` there. -/
def Rel.via {β : Type} (R : Rel DB) (f : DB → β) (_ : ∀ s s', f s' = f s → R.r s s') : Rel DB := R

theorem Step.via_keep {β} {R : Rel DB} {f : DB → β} {hkeep : ∀ s s', f s' = f s → R.r s s'}
    {g : DB → Option Failure} {u : DB → DB} (hu : ∀ s, f (u s) = f s) : Step (R.via f hkeep) (M.guarded g u) :=
  guarded_keep f hkeep hu

/-- Each primitive leaves `f` alone by default, checked by `rfl`; a call names only the primitives that
    write what `f` sees, with their proof. -/
theorem primsOK_of_obs {P : Params} {h : Nat} {R : Rel DB} {Auth : Addr → Prop} {AuthT : HistTx → Prop} {AuthH : Prop}
    {β : Type} (f : DB → β) (hkeep : ∀ s s', f s' = f s → R.r s s')
    (addBal : ∀ a t v, Step (R.via f hkeep) (addBal P a t v) := by
      exact fun _ _ _ => .via_keep fun _ => rfl)
    (subBal : ∀ a t v, Auth a → Step (R.via f hkeep) (subBal P a t v) := by
      exact fun _ _ _ _ => subBal_step_of _ _ _ _ (.via_keep fun _ => rfl) (.via_keep fun _ => rfl))
    (insertRate : ∀ tok v, Step (R.via f hkeep) (insertRate h tok v) := by
      exact fun _ _ => .via_keep fun _ => rfl)
    (insertHistBatch : ∀ r, Step (R.via f hkeep) (insertHistBatch r) := by
      exact fun _ => .via_keep fun _ => rfl)
    (insertHistTx : ∀ r, AuthT r → Step (R.via f hkeep) (insertHistTx r) := by
      exact fun _ _ => .via_keep fun _ => rfl)
    (insertLookup : ∀ r, Step (R.via f hkeep) (insertLookup r) := by
      exact fun _ => .via_keep fun _ => by split <;> rfl)
    (setExecuted : ∀ hash v, Step (R.via f hkeep) (setExecuted hash v) := by
      exact fun _ _ => .via_keep fun _ => rfl)
    (setConvertedAmount : ∀ hash i a, Step (R.via f hkeep) (setConvertedAmount hash i a) := by
      exact fun _ _ _ => .via_keep fun _ => rfl)
    (setPegConverted : ∀ hash i a o, Step (R.via f hkeep) (setPegConverted hash i a o) := by
      exact fun _ _ _ _ => .via_keep fun _ => rfl)
    (insertRelation : ∀ hash a i t c, Step (R.via f hkeep) (insertRelation hash a i t c) := by
      exact fun _ _ _ _ _ => .via_keep fun _ => by split <;> rfl)
    (insertHolding : ∀ e keymr, AuthH → Step (R.via f hkeep) (insertHolding { entry := e, height := h, keymr := keymr }) := by
      exact fun _ _ _ => .via_keep fun _ => rfl)
    (insertBank : ∀ a, Step (R.via f hkeep) (insertBank h a) := by
      exact fun _ => .via_keep fun _ => rfl)
    (updateBank : ∀ bh u r, Step (R.via f hkeep) (updateBank bh u r) := by
      exact fun _ _ _ => .via_keep fun _ => rfl)
    (insertGrade : ∀ keymr sh v c n, Step (R.via f hkeep) (insertGrade { height := h, keymr := keymr, shorthashes := sh, version := v, cutoff := c, count := n }) := by
      exact fun _ _ _ _ _ => .via_keep fun _ => rfl)
    (insertWinner : ∀ p e pay m a, Step (R.via f hkeep) (insertWinner { height := h, position := p, entryhash := e, payout := pay, minerid := m, addrStr := a }) := by
      exact fun _ _ _ _ _ => .via_keep fun _ => rfl)
    (markSynced : ∀ v, Step (R.via f hkeep) (markSynced h v) := by
      exact fun _ => .via_keep fun _ => rfl)
    (rotate : Step (R.via f hkeep) (M.guarded (fun _ => none) fun db : DB => { db with snapPast := db.snapCur, snapCur := db.addrs }) := by
      exact .via_keep fun _ => rfl)
    (touch : Step (R.via f hkeep) (M.guarded (fun _ => none) fun db : DB => { db with avgTouched := true }) := by
      exact .via_keep fun _ => rfl) :
    PrimsOK P h R Auth AuthT AuthH :=
  ⟨addBal, subBal, insertRate, insertHistBatch, insertHistTx, insertLookup, setExecuted, setConvertedAmount, setPegConverted,
   insertRelation, insertHolding, insertBank, updateBank, insertGrade, insertWinner, markSynced, rotate, touch⟩

/-! ### C12: rate rows of other heights are never touched -/

def ratesFrozen (g : Nat) : Rel DB where
  r s s' := s'.ratesAt g = s.ratesAt g
  refl _ := rfl
  trans _ _ _ h1 h2 := h2.trans h1

theorem primsOK_ratesFrozen (P : Params) {h g : Nat} (hg : g ≠ h) : PrimsOK P h (ratesFrozen g) :=
  primsOK_of_obs (·.rates)
    (fun s s' e => show s'.ratesAt g = s.ratesAt g by unfold DB.ratesAt; rw [e])
    (insertRate := fun tok v => Step.guarded fun s => by
      -- the new row is of height `h` and is filtered out
      show (s.rates ++ [({ height := h, token := tok, value := v } : RateRow)]).filter (·.height == g) = s.rates.filter (·.height == g)
      rw [List.filter_append, List.filter_cons_of_neg (by rw [beq_iff_eq]; exact Ne.symm hg), List.filter_nil, List.append_nil])

/-! ### C06: a relation row, once written, stays -/

def relsGrow : Rel DB where
  r s s' := ∀ x, s.isReplay x = true → s'.isReplay x = true
  refl _ _ h := h
  trans _ _ _ h1 h2 x hx := h2 x (h1 x hx)

theorem relsGrow_keep (s s' : DB) (e : s'.rels = s.rels) : relsGrow.r s s' :=
  fun x hx => by unfold DB.isReplay at *; rw [e]; exact hx

theorem primsOK_relsGrow (P : Params) (h : Nat) : PrimsOK P h relsGrow :=
  primsOK_of_obs (·.rels) relsGrow_keep
    (insertRelation := fun hash a i t c => Step.guarded (fun s x hx => by
      unfold DB.isReplay at *
      split
      · exact hx
      · simp only [List.any_append, Bool.or_eq_true]
        exact Or.inl hx))

/-! ### C03: the balance-table invariant -/

theorem primsOK_addrsOK (P : Params) (h : Nat) : PrimsOK P h (invRel AddrsOK) :=
  primsOK_of_obs (·.addrs) (fun s s' e hs => by unfold AddrsOK at *; rw [e]; exact hs)
    (addBal := fun a t v => Step.guarded fun s h => addrsOK_upsertAdd s a t v h) (subBal := fun a t v => fun _ => subBal_addrsOK P a t v)

end Pegnet

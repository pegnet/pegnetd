import Pegnet.Average
import Proofs.ListFold
/-
  node/average.go: the rolling-average cache.

  Per ticker `t` the cache is read through `series d t` (the stored series, `[]` if there is none) and
  answers `avgOf P (series d t)` (`computeAverages_get_series`); for a series no longer than the period that
  is "0 below `AverageRequired` non-zero quotes, the mean (zero quotes in the divisor) otherwise" (`avgOf_spec`).

  One collection step (`collectRatesAtHeight`) turns the series of `t` into `trimTo N (series) ++ quote`, where `quote`
  is the value the rate table has for `t` at that height, if any (`collectAt_series`); a stored pair that `series`
  does not see (a later pair of the same ticker) is left as it was, trimmed, or overwritten with the visible one
  (`collectAt_mem`), so every stored pair is within the period after the step (`collectAt_len`).

  `CacheOK c`: every series of the cache is at most `AveragePeriod` long and the stored averages
  are `computeAverages` of the stored series. It holds for the empty cache and is preserved by
  `GetPegNetRateAverages`, so every answer the function ever gives — cached, incremental or
  reloaded — is `computeAverages` of series of bounded length.

  At the end, not about the cache: the height the block asks the averages for, `(db.mostRecentRatesBefore h).2`
  (`SelectMostRecentRatesBeforeHeight`), is the greatest rated height below `h` (`mostRecentRatesBefore_spec`), or 0 when there is none (`mostRecentRatesBefore_snd`).
-/
namespace Pegnet

def nonZero (l : List Nat) : Nat := (l.filter (· != 0)).length

theorem zeros_add_nonZero (l : List Nat) : (l.filter (· == 0)).length + nonZero l = l.length := by
  unfold nonZero
  rw [← List.countP_eq_length_filter, ← List.countP_eq_length_filter, List.length_eq_countP_add_countP (· == 0)]
  simp only [bne, Bool.not_eq_true, Bool.decide_eq_false]

theorem present_eq_nonZero (period : Nat) (l : List Nat) (hl : l.length ≤ period) :
    period - numberMissing period l = nonZero l := by
  have e : numberMissing period l = (l.filter (· == 0)).length + (period - l.length) := by
    unfold numberMissing
    split
    · rfl
    · rename_i h; rw [Nat.sub_eq_zero_of_le (Nat.not_lt.1 h)]
  obtain ⟨k, rfl⟩ := Nat.exists_eq_add_of_le hl
  rw [e, Nat.add_sub_cancel_left, Nat.add_sub_add_right, ← zeros_add_nonZero l, Nat.add_sub_cancel_left]

def avgOf (P : Params) (l : List Nat) : Nat :=
  if P.avgPeriod - numberMissing P.avgPeriod l < P.avgRequired then 0
  else (l.sum % 18446744073709551616) / l.length

theorem avgOf_nil (P : Params) : avgOf P [] = 0 := by
  unfold avgOf; split <;> rfl

theorem avgOf_spec (P : Params) (l : List Nat) (hl : l.length ≤ P.avgPeriod) :
    avgOf P l = if nonZero l < P.avgRequired then 0 else (l.sum % 18446744073709551616) / l.length := by
  unfold avgOf
  rw [present_eq_nonZero P.avgPeriod l hl]

def series (d : List (Ticker × List Nat)) (t : Ticker) : List Nat := (dataGet d t).getD []

theorem dataGet_some {d : List (Ticker × List Nat)} {t : Ticker} {l : List Nat} (h : dataGet d t = some l) :
    (t, l) ∈ d := by
  unfold dataGet at h
  obtain ⟨p, hf, rfl⟩ := Option.map_eq_some_iff.1 h
  have hk : p.1 = t := by simpa using List.find?_some hf
  exact hk ▸ List.mem_of_find?_eq_some hf

theorem dataGet_mem {d : List (Ticker × List Nat)} {t : Ticker} {l : List Nat} (h : dataGet d t = some l) :
    ∃ p ∈ d, p.2 = l := ⟨_, dataGet_some h, rfl⟩

theorem series_mem {d : List (Ticker × List Nat)} {t : Ticker} (h : series d t ≠ []) : (t, series d t) ∈ d := by
  unfold series at h ⊢
  cases hg : dataGet d t with
  | none => rw [hg] at h; exact absurd rfl h
  | some l => exact dataGet_some hg

theorem find?_map_key {β γ : Type} (f : Ticker × β → Ticker × γ) (hf : ∀ p, (f p).1 = p.1)
    (d : List (Ticker × β)) (t : Ticker) :
    (d.map f).find? (·.1 == t) = (d.find? (·.1 == t)).map f := by
  rw [List.find?_map]
  congr 2
  funext p
  exact congrArg (· == t) (hf p)

theorem series_map (g : List Nat → List Nat) (hg : g [] = []) (d : List (Ticker × List Nat)) (t : Ticker) :
    series (d.map (fun p => (p.1, g p.2))) t = g (series d t) := by
  unfold series dataGet
  rw [find?_map_key (fun p => (p.1, g p.2)) (fun _ => rfl)]
  cases d.find? (·.1 == t) with
  | none => exact hg.symm
  | some q => rfl

theorem computeAverages_get_series (P : Params) (d : List (Ticker × List Nat)) (t : Ticker) :
    (computeAverages P d).get t = avgOf P (series d t) := by
  have e : computeAverages P d = d.map (fun p => (p.1, avgOf P p.2)) := by
    unfold computeAverages avgOf
    congr 1; funext p; split <;> rfl
  unfold TMap.get series dataGet
  rw [e, find?_map_key (fun p => (p.1, avgOf P p.2)) (fun _ => rfl)]
  cases d.find? (·.1 == t) with
  | none => exact (avgOf_nil P).symm
  | some q => rfl

theorem mem_dataSet {d : List (Ticker × List Nat)} {t : Ticker} {l : List Nat} {p : Ticker × List Nat}
    (hp : p ∈ dataSet d t l) : p = (t, l) ∨ p ∈ d ∧ p.1 ≠ t := by
  revert hp
  fun_cases dataSet d t l
  case case1 =>
    intro hp
    obtain ⟨q, hq, rfl⟩ := List.mem_map.1 hp
    by_cases hk : q.1 = t
    · exact .inl (if_pos (beq_iff_eq.2 hk))
    · exact .inr (if_neg (fun h => hk (beq_iff_eq.1 h)) ▸ ⟨hq, hk⟩)
  case case2 hany =>
    intro hp
    rcases List.mem_append.1 hp with h | h
    · exact .inr ⟨h, fun hk => hany (List.any_eq_true.2 ⟨p, h, beq_iff_eq.2 hk⟩)⟩
    · exact .inl (List.mem_singleton.1 h)

theorem series_dataSet (d : List (Ticker × List Nat)) (t t' : Ticker) (l : List Nat) :
    series (dataSet d t l) t' = if t' = t then l else series d t' := by
  unfold series dataGet
  fun_cases dataSet d t l
  case case1 hany =>
    -- the rewrite keeps every key, so it finds the entry it found before, rewritten if its key is `t`
    have hf : ∀ p : Ticker × List Nat, (if (p.1 == t) = true then (t, l) else p).1 = p.1 := by
      intro p; split
      · rename_i h; exact (beq_iff_eq.1 h).symm
      · rfl
    rw [find?_map_key _ hf]
    cases hfind : d.find? (·.1 == t') with
    | none =>
      rw [if_neg]; · rfl
      intro e; subst e
      obtain ⟨q, hq, hk⟩ := List.any_eq_true.1 hany
      exact List.find?_eq_none.1 hfind q hq hk
    | some q =>
      have hk : q.1 = t' := by simpa using List.find?_some hfind
      simp only [Option.map_some, Option.getD_some]
      rw [hk]
      by_cases e : t' = t
      · rw [if_pos (beq_iff_eq.2 e), if_pos e]
      · rw [if_neg (fun h => e (beq_iff_eq.1 h)), if_neg e]
  case case2 hany =>
    have hnone : d.find? (·.1 == t) = none :=
      List.find?_eq_none.2 fun q hq hk => hany (List.any_eq_true.2 ⟨q, hq, hk⟩)
    rw [List.find?_append]
    by_cases e : t' = t
    · subst e; rw [if_pos rfl, hnone]; simp
    · have : (t == t') = false := by simpa using fun h => e h.symm
      rw [if_neg e]; simp [this]

/-- a write leaves every pair either as it was or carrying the series its key is read at: the shadowed pairs of the
    written key are overwritten together with the visible one -/
theorem dataSet_visible {Q : Ticker × List Nat → Prop} {d : List (Ticker × List Nat)} (t : Ticker) (l : List Nat)
    (h : ∀ p ∈ d, Q p ∨ p.2 = series d p.1) : ∀ p ∈ dataSet d t l, Q p ∨ p.2 = series (dataSet d t l) p.1 := by
  intro p hp
  rw [series_dataSet]
  rcases mem_dataSet hp with rfl | ⟨hm, hne⟩
  · exact .inr (if_pos rfl).symm
  · rw [if_neg hne]
    exact h p hm

theorem trimTo_nil (n : Nat) : trimTo n [] = [] := by
  cases n <;> rfl

theorem trimTo_full {n : Nat} {l : List Nat} (hn : 0 < n) (h : l.length = n) : trimTo n l = l.drop 1 := by
  unfold trimTo
  rw [if_neg (Nat.ne_of_gt hn), if_pos (Nat.le_of_eq h.symm), h, Nat.sub_self]

theorem trimTo_short {n : Nat} {l : List Nat} (h : l.length < n) : trimTo n l = l := by
  unfold trimTo
  rw [if_neg (Nat.ne_of_gt (Nat.zero_lt_of_lt h)), if_neg (Nat.not_le_of_gt h)]

theorem trimTo_lt (period : Nat) (l : List Nat) (hp : 0 < period) : (trimTo period l).length < period := by
  fun_cases trimTo period l
  case case1 h => exact absurd h (Nat.ne_of_gt hp)
  case case2 _ h =>
    rw [List.length_drop, Nat.sub_add_eq, Nat.sub_sub_self h]
    exact Nat.sub_one_lt (Nat.ne_of_gt hp)
  case case3 _ h => exact Nat.lt_of_not_le h

/-- the FORM of the cache; which quotes it holds is `CacheSem` (Proofs/AvgWindow), and `CacheGood` (Proofs/RestartAvg) is
    both together with "the cache's height has been synced" -/
structure CacheOK (P : Params) (c : AvgCache) : Prop where
  len : ∀ p ∈ c.data, p.2.length ≤ P.avgPeriod
  avgs : c.avgs = computeAverages P c.data

theorem cacheOK_empty (P : Params) : CacheOK P {} := ⟨fun _ h => absurd h List.not_mem_nil, rfl⟩

theorem set_pairwise (m : TMap) (t : Ticker) (v : Nat) (h : m.Pairwise (fun a b => a.1 ≠ b.1)) :
    (m.set t v).Pairwise (fun a b => a.1 ≠ b.1) := by
  unfold TMap.set
  refine List.pairwise_cons.2 ⟨fun b hb e => ?_, h.sublist List.filter_sublist⟩
  have := (List.mem_filter.1 hb).2
  simp only [bne_iff_ne, ne_eq] at this
  exact this e.symm

theorem ratesToMap_pairwise (P : Params) (rows : List RateRow) :
    (ratesToMap P rows).Pairwise (fun a b => a.1 ≠ b.1) := by
  refine List.foldlRecOn rows _ List.Pairwise.nil fun m hpw r _ => ?_
  dsimp only
  split
  · exact hpw
  · exact set_pairwise m _ _ hpw

/-- the value the rate table has for ticker `t` at height `g`, as a list of length ≤ 1 -/
def quoteAt (P : Params) (db : DB) (g : Nat) (t : Ticker) : List Nat :=
  (((ratesToMap P (db.ratesAt g)).find? (·.1 == t)).map (·.2)).toList

theorem quoteAt_length (P : Params) (db : DB) (g : Nat) (t : Ticker) : (quoteAt P db g t).length ≤ 1 := by
  unfold quoteAt
  cases ((ratesToMap P (db.ratesAt g)).find? (·.1 == t)).map (·.2) <;> simp

theorem series_collect_fold (rates : TMap) (hpw : rates.Pairwise (fun a b => a.1 ≠ b.1)) (t : Ticker)
    (acc : List (Ticker × List Nat)) :
    series (rates.foldl (fun acc kv => dataSet acc kv.1 ((dataGet acc kv.1).getD [] ++ [kv.2])) acc) t
      = series acc t ++ ((rates.find? (·.1 == t)).map (·.2)).toList := by
  fun_induction List.foldl (fun acc kv => dataSet acc kv.1 ((dataGet acc kv.1).getD [] ++ [kv.2])) acc rates
  case case1 => exact (List.append_nil _).symm
  case case2 acc kv rest ih =>
    have hpw' := List.pairwise_cons.1 hpw
    rw [ih hpw'.2, series_dataSet]
    by_cases e : t = kv.1
    · subst e
      have hnone : rest.find? (·.1 == kv.1) = none :=
        List.find?_eq_none.2 fun q hq hk => hpw'.1 q hq (beq_iff_eq.1 hk).symm
      rw [if_pos rfl, hnone, List.find?_cons_of_pos (p := fun x : Ticker × Nat => x.1 == kv.1) (beq_self_eq_true kv.1)]
      exact List.append_nil _
    · rw [if_neg e, List.find?_cons_of_neg (p := fun x : Ticker × Nat => x.1 == t) (fun h => e (beq_iff_eq.1 h).symm)]

theorem collectAt_series (P : Params) (db : DB) (d : List (Ticker × List Nat)) (g : Nat) (t : Ticker) :
    series (collectAt P db d g) t = trimTo P.avgPeriod (series d t) ++ quoteAt P db g t := by
  unfold collectAt quoteAt
  dsimp only
  rw [series_collect_fold _ (ratesToMap_pairwise P _), series_map _ (trimTo_nil _)]

theorem collectAt_mem {P : Params} {db : DB} {d : List (Ticker × List Nat)} {g : Nat} {p : Ticker × List Nat}
    (hp : p ∈ collectAt P db d g) :
    p ∈ d.map (fun q => (q.1, trimTo P.avgPeriod q.2)) ∨ p.2 = series (collectAt P db d g) p.1 :=
  List.foldlRecOn (motive := fun acc => ∀ p ∈ acc, p ∈ d.map _ ∨ p.2 = series acc p.1) _ _
    (fun _ h => .inl h) (fun _ hacc kv _ => dataSet_visible kv.1 _ hacc) p hp

theorem collectAt_len (P : Params) (hp : 0 < P.avgPeriod) (db : DB) (d : List (Ticker × List Nat)) (h : Nat) :
    ∀ p ∈ collectAt P db d h, p.2.length ≤ P.avgPeriod := by
  intro p hpm
  rcases collectAt_mem hpm with hm | e
  · obtain ⟨q, _, rfl⟩ := List.mem_map.1 hm
    exact Nat.le_of_lt (trimTo_lt P.avgPeriod q.2 hp)
  · rw [e, collectAt_series, List.length_append]
    exact Nat.le_trans (Nat.add_le_add_left (quoteAt_length P db h p.1) _) (trimTo_lt _ _ hp)

/-- the first height the reload path reads for `H`: `H + 1 - N`, from 1 -/
def startOf (n H : Nat) : Nat := if H + 1 > n then H + 1 - n else 1

theorem startOf_pos (n H : Nat) : 1 ≤ startOf n H := by
  fun_cases startOf n H
  case case1 h => exact Nat.sub_pos_of_lt h
  case case2 => exact Nat.le_refl 1

theorem startOf_of_ge {n H : Nat} (h : n ≤ H) : startOf n H = H + 1 - n := if_pos (Nat.lt_succ_of_le h)

theorem startOf_of_le {n H : Nat} (h : H ≤ n) : startOf n H = 1 := by
  fun_cases startOf n H
  case case1 h' =>
    rw [Nat.le_antisymm h (Nat.le_of_lt_succ h')]
    exact Nat.add_sub_cancel_left (n := n) (m := 1)
  case case2 => rfl

theorem startOf_count_le (n H : Nat) : H + 1 - startOf n H ≤ n := by
  fun_cases startOf n H
  case case1 h =>
    rw [Nat.sub_sub_self (Nat.le_of_lt h)]
    exact Nat.le_refl n
  case case2 h =>
    rw [Nat.add_sub_cancel]
    exact Nat.le_of_succ_le (Nat.not_lt.1 h)

/-- the series `GetPegNetRateAverages` leaves in the cache when it cannot answer from it: one more
    collection step if asked for the next height, a reload of the height window otherwise -/
def nextData (P : Params) (db : DB) (c : AvgCache) (height : Nat) : List (Ticker × List Nat) :=
  if c.height + 1 = height then collectAt P db c.data height
  else (List.range (height + 1 - startOf P.avgPeriod height)).foldl
    (fun acc i => collectAt P db acc (startOf P.avgPeriod height + i)) (c.data.map (fun p => (p.1, ([] : List Nat))))

theorem getAverages_hit {P : Params} {db : DB} {c : AvgCache} {height : Nat} (h : c.height = height) :
    getAverages P db c height = (c, c.avgs) := by
  unfold getAverages; rw [if_pos h]

theorem getAverages_miss {P : Params} {db : DB} {c : AvgCache} {height : Nat} (h : c.height ≠ height) :
    getAverages P db c height =
      ({ data := nextData P db c height, avgs := computeAverages P (nextData P db c height), height := height },
        computeAverages P (nextData P db c height)) := by
  have hs : (if startOf P.avgPeriod height < 1 then 1 else startOf P.avgPeriod height) = startOf P.avgPeriod height :=
    if_neg (Nat.not_lt_of_le (startOf_pos _ _))
  unfold getAverages nextData
  rw [if_neg h]
  dsimp only
  by_cases h1 : c.height + 1 = height
  · subst h1
    rw [if_pos rfl, if_neg (fun hh => hh.elim (Nat.lt_irrefl _) Nat.not_succ_lt_self)]
  · unfold startOf at hs ⊢
    rw [if_neg h1, if_pos ((Nat.lt_or_gt_of_ne h).imp (fun a => Nat.lt_of_le_of_ne a h1) id), hs]

theorem getAverages_idem (P : Params) (db : DB) (c : AvgCache) (h : Nat) :
    getAverages P db (getAverages P db c h).1 h = getAverages P db c h := by
  by_cases hc : c.height = h
  · rw [getAverages_hit hc, getAverages_hit hc]
  · rw [getAverages_miss hc]
    exact getAverages_hit rfl

theorem getAverages_height (P : Params) (db : DB) (c : AvgCache) (height : Nat) :
    (getAverages P db c height).1.height = height := by
  by_cases h : c.height = height
  · rw [getAverages_hit h]; exact h
  · rw [getAverages_miss h]

theorem nextData_len (P : Params) (hp : 0 < P.avgPeriod) (db : DB) (c : AvgCache) (height : Nat) :
    ∀ p ∈ nextData P db c height, p.2.length ≤ P.avgPeriod := by
  fun_cases nextData P db c height
  case case1 => exact collectAt_len P hp db c.data height
  case case2 =>
    refine List.foldlRecOn (motive := fun d => ∀ p ∈ d, p.2.length ≤ P.avgPeriod) _ _ (fun p hpm => ?_)
      fun acc _ i _ => collectAt_len P hp db acc _
    obtain ⟨q, _, rfl⟩ := List.mem_map.1 hpm
    exact Nat.zero_le _

theorem getAverages_ok (P : Params) (hp : 0 < P.avgPeriod) (db : DB) (c : AvgCache) (height : Nat) (hc : CacheOK P c) :
    CacheOK P (getAverages P db c height).1 ∧ (getAverages P db c height).2 = (getAverages P db c height).1.avgs := by
  by_cases h : c.height = height
  · rw [getAverages_hit h]; exact ⟨hc, rfl⟩
  · rw [getAverages_miss h]; exact ⟨⟨nextData_len P hp db c height, rfl⟩, rfl⟩

/-- **When an average is available.** Whatever the cache held before (as long as it came from this
    function), whichever path is taken: a non-zero answer for `t` means the window holds at least
    `AverageRequired` non-zero quotes of `t` among at most `AveragePeriod` samples, and the answer
    is their mean (zero quotes included in the divisor). -/
theorem published_average_has_quotes (P : Params) (hp : 0 < P.avgPeriod) (db : DB) (c : AvgCache) (height : Nat)
    (hc : CacheOK P c) (t : Ticker) (hne : (getAverages P db c height).2.get t ≠ 0) :
    ∃ p ∈ (getAverages P db c height).1.data, p.1 = t ∧ p.2.length ≤ P.avgPeriod ∧
      P.avgRequired ≤ nonZero p.2 ∧
      (getAverages P db c height).2.get t = (p.2.sum % 18446744073709551616) / p.2.length := by
  obtain ⟨hok, he⟩ := getAverages_ok P hp db c height hc
  rw [he, hok.avgs, computeAverages_get_series] at hne ⊢
  have hm := series_mem (fun h => hne (h ▸ avgOf_nil P))
  rw [avgOf_spec P _ (hok.len _ hm)] at hne ⊢
  by_cases hq : nonZero (series (getAverages P db c height).1.data t) < P.avgRequired
  · rw [if_pos hq] at hne; exact absurd rfl hne
  · rw [if_neg hq]; exact ⟨_, hm, rfl, hok.len _ hm, Nat.le_of_not_lt hq, rfl⟩

/-- the height `SelectMostRecentRatesBeforeHeight` answers: `MAX(height) WHERE height < h`, 0 when
    there is none (the fold from 0 over no rows is 0) -/
theorem mostRecentRatesBefore_snd (db : DB) (h : Nat) :
    (db.mostRecentRatesBefore h).2 = ((db.rates.filter (·.height < h)).map (·.height)).foldl max 0 := by
  unfold DB.mostRecentRatesBefore
  generalize (db.rates.filter (·.height < h)).map (·.height) = hs
  cases hs <;> rfl

theorem mostRecentRatesBefore_lt (db : DB) (h : Nat) (hpos : 0 < h) : (db.mostRecentRatesBefore h).2 < h := by
  rw [mostRecentRatesBefore_snd]
  rcases List.mem_cons.1 (List.foldl_max_greatest _ 0).1 with e | hm
  · rw [e]; exact hpos
  · obtain ⟨q, hq, e⟩ := List.mem_map.1 hm
    rw [← e]; exact of_decide_eq_true (List.mem_filter.1 hq).2

theorem mostRecentRatesBefore_spec (db : DB) (h : Nat) (r : RateRow) (hr : r ∈ db.rates) (hlt : r.height < h) :
    (db.mostRecentRatesBefore h).2 < h ∧ (∃ r' ∈ db.rates, r'.height = (db.mostRecentRatesBefore h).2) ∧
      ∀ r' ∈ db.rates, r'.height < h → r'.height ≤ (db.mostRecentRatesBefore h).2 := by
  refine ⟨mostRecentRatesBefore_lt db h (Nat.zero_lt_of_lt hlt), ?_⟩
  rw [mostRecentRatesBefore_snd]
  have hmem : ∀ r' ∈ db.rates, r'.height < h → r'.height ∈ (db.rates.filter (·.height < h)).map (·.height) :=
    fun r' hr' hl' => List.mem_map_of_mem (List.mem_filter.2 ⟨hr', decide_eq_true hl'⟩)
  obtain ⟨q, hq, e⟩ := List.mem_map.1 (List.foldl_max_zero_mem (List.ne_nil_of_mem (hmem r hr hlt)))
  exact ⟨⟨q, (List.mem_filter.1 hq).1, e⟩,
    fun r' hr' hl' => (List.foldl_max_greatest _ 0).2 _ (List.mem_cons_of_mem _ (hmem r' hr' hl'))⟩

end Pegnet

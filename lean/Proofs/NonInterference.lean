import Proofs.AvgIrrelevant
import Proofs.VersionLock
/-
  A relational program logic — `Step2 Q m`: two runs of `m` from `Q`-related states end alike, in
  `Q`-related states — and its use: `svRel A B` relates databases that are equal except for
  `pn_sync_version`. Everything in the block transaction except the final height bump respects it, i.e.
  neither reads nor writes that table. So a block that commits has appended exactly its own row
  (`blockTx_bump`), and two databases that differ only in that table (e.g. by the legacy back-fill rows
  a restart adds) go through the same block with the same result (`blockTx_sv_blind`; for two nodes, `applyBlock_sv_blind_of`).
-/
namespace Pegnet

def Res.rel {σ α} (Q : σ → σ → Prop) : Res σ α → Res σ α → Prop
  | .ok a s₁, .ok b s₂ => a = b ∧ Q s₁ s₂
  | .fail e s₁, .fail e' s₂ => e = e' ∧ Q s₁ s₂
  | _, _ => False

structure Step2 {σ α} (Q : σ → σ → Prop) (m : M σ α) : Prop where
  run : ∀ s₁ s₂, Q s₁ s₂ → Res.rel Q (m s₁) (m s₂)

theorem Res.rel.cases {σ α} {Q : σ → σ → Prop} {r₁ r₂ : Res σ α} (h : Res.rel Q r₁ r₂) {G : Res σ α → Res σ α → Prop}
    (hok : ∀ a t₁ t₂, Q t₁ t₂ → G (.ok a t₁) (.ok a t₂)) (hfail : ∀ e t₁ t₂, Q t₁ t₂ → G (.fail e t₁) (.fail e t₂)) : G r₁ r₂ := by
  revert h
  fun_cases Res.rel Q r₁ r₂
  case case1 a t₁ b t₂ =>
    rintro ⟨rfl, hq⟩
    exact hok a t₁ t₂ hq
  case case2 e t₁ e' t₂ =>
    rintro ⟨rfl, hq⟩
    exact hfail e t₁ t₂ hq
  case case3 => nofun

namespace Step2
variable {σ α β : Type} {Q : σ → σ → Prop}

theorem pure (a : α) : Step2 Q (Pure.pure a : M σ α) := ⟨fun _ _ h => ⟨rfl, h⟩⟩
theorem throw (e : Failure) : Step2 Q (M.throw e : M σ α) := ⟨fun _ _ h => ⟨rfl, h⟩⟩

theorem bind {m : M σ α} {f : α → M σ β} (hm : Step2 Q m) (hf : ∀ a, Step2 Q (f a)) : Step2 Q (m >>= f) := by
  constructor
  intro s₁ s₂ hq
  have h := hm.run s₁ s₂ hq
  rw [M.bind_run, M.bind_run]
  generalize m s₁ = r₁ at h ⊢
  generalize m s₂ = r₂ at h ⊢
  apply h.cases
  · exact fun a t₁ t₂ hq' => (hf a).run t₁ t₂ hq'
  · exact fun e t₁ t₂ hq' => ⟨rfl, hq'⟩

theorem swallow {m : M σ Unit} (hm : Step2 Q m) : Step2 Q (M.swallow m) := by
  constructor
  intro s₁ s₂ hq
  have h := hm.run s₁ s₂ hq
  unfold M.swallow
  generalize m s₁ = r₁ at h ⊢
  generalize m s₂ = r₂ at h ⊢
  apply h.cases
  · exact fun _ _ _ hq' => ⟨rfl, hq'⟩
  · exact fun _ _ _ hq' => ⟨rfl, hq'⟩

theorem guarded {g : σ → Option Failure} {u : σ → σ}
    (hg : ∀ s₁ s₂, Q s₁ s₂ → g s₁ = g s₂) (hu : ∀ s₁ s₂, Q s₁ s₂ → Q (u s₁) (u s₂)) : Step2 Q (M.guarded g u) := by
  constructor
  intro s₁ s₂ hq
  unfold M.guarded
  rw [hg s₁ s₂ hq]
  cases g s₂ with
  | some e => exact ⟨rfl, hq⟩
  | none => exact ⟨rfl, hu s₁ s₂ hq⟩

theorem get_bind {f : σ → M σ β} (hf : ∀ s₁ s₂, Q s₁ s₂ → f s₁ = f s₂) (hg : ∀ c, Step2 Q (f c)) :
    Step2 Q (M.get >>= f) := by
  constructor
  intro s₁ s₂ hq
  show Res.rel Q (f s₁ s₁) (f s₂ s₂)
  rw [hf s₁ s₂ hq]
  exact (hg s₂).run s₁ s₂ hq

end Step2

/-- equal except for the version table, which is `A` on the left and `B` on the right. Asymmetric on purpose: the right
    conjunct makes `Step2 (svRel A B) m` say that `m` does not WRITE the table (it is `A` and `B` again at the end), not
    only that it does not read it. -/
def svRel (A B : VRows) (s₁ s₂ : DB) : Prop := s₁ = { s₂ with syncVersions := A } ∧ s₂.syncVersions = B

/-- a guarded update that neither reads nor writes the version table: it commutes with overwriting the table.
    Both conditions are `rfl` for a plain update of other fields (after a case split for the two inserts
    that skip duplicates). -/
theorem Step2.guarded_sv {A B : VRows} {g : DB → Option Failure} {u : DB → DB}
    (hg : ∀ s r, g { s with syncVersions := r } = g s := by intros; rfl)
    (hu : ∀ s r, u { s with syncVersions := r } = { u s with syncVersions := r } := by
      intros; first | rfl | (dsimp only; split <;> rfl)) :
    Step2 (svRel A B) (M.guarded g u) :=
  Step2.guarded (fun _ s₂ hq => by rw [hq.1, hg])
    (fun _ s₂ hq => ⟨by rw [hq.1, hu], (congrArg DB.syncVersions (hu s₂ s₂.syncVersions)).trans hq.2⟩)

theorem ledger_eq_of_sv {s₁ s₂ : DB} {A : VRows} (h : s₁ = { s₂ with syncVersions := A }) : s₁.ledger = s₂.ledger := by
  subst h; rfl

theorem svRel_ledger {A B : VRows} (s₁ s₂ : DB) (hq : svRel A B s₁ s₂) : s₁.ledger = s₂.ledger :=
  ledger_eq_of_sv hq.1

theorem Built.step2 {σ α : Type} {v : σ → σ} {Q : σ → σ → Prop} {m : M σ α}
    (h : Built (Step2 Q) v m) (hv : ∀ s₁ s₂, Q s₁ s₂ → v s₁ = v s₂) : Step2 Q m := by
  induction h with
  | leaf h => exact h
  | pure a => exact Step2.pure a
  | throw e => exact Step2.throw e
  | bind _ _ ih1 ih2 => exact Step2.bind ih1 ih2
  | read hf _ ih => exact Step2.get_bind (fun s₁ s₂ hq => by rw [← hf s₁, ← hf s₂, hv s₁ s₂ hq]) ih

theorem primsJ_sv (P : Params) (h : Nat) (A B : VRows) : PrimsJ P h (Step2 (svRel A B)) where
  addBal _ _ _ := .guarded_sv
  subBal a t v _ := (subBal_built P a t v .guarded_sv .guarded_sv).step2 svRel_ledger
  insertRate _ _ := .guarded_sv
  insertHistBatch _ := .guarded_sv
  insertHistTx _ _ := .guarded_sv
  insertLookup _ := .guarded_sv
  setExecuted _ _ := .guarded_sv
  setConvertedAmount _ _ _ := .guarded_sv
  setPegConverted _ _ _ _ := .guarded_sv
  insertRelation _ _ _ _ _ := .guarded_sv
  insertHolding _ _ _ := .guarded_sv
  insertBank _ := .guarded_sv
  updateBank _ _ _ := .guarded_sv
  insertGrade _ _ _ _ _ := .guarded_sv
  insertWinner _ _ _ _ _ := .guarded_sv
  rotate := .guarded_sv
  touch := .guarded_sv

theorem blockBody_s2 {P : Params} {A B : VRows} (c : DB) (b : Block) (avgs : TMap) :
    Step2 (svRel A B) (burnZeroing P c b >>= fun _ => syncBlock P c b avgs) :=
  have ok := primsJ_sv P b.height A B
  have hc := compsB_of_prims ok (fun _ => trivial) trivial
  (Built.bind (burnZeroing_built c b ok hc (fun hb => (hb.step2 svRel_ledger).swallow) fun _ => trivial) fun _ =>
    syncBlock_prims c b avgs ok hc (fun _ => .guarded_sv) (fun _ _ _ _ _ _ _ => trivial) (fun _ _ _ _ _ => trivial)
      fun _ => trivial).step2 svRel_ledger

theorem Step2.sv_kept {α : Type} {m : LM α} {s s' : DB} {a : α} (h : Step2 (svRel s.syncVersions s.syncVersions) m)
    (hs : m s = .ok a s') : s'.syncVersions = s.syncVersions := by
  have := h.run s s ⟨rfl, rfl⟩
  rw [hs] at this
  exact this.2.2

/-- A block transaction that commits ends with the height bump, and until then it has not touched the
    version table. So the table it started from has no row of its height (PRIMARY KEY), and it ends
    with exactly the block's row appended and the block's height recorded. -/
theorem blockTx_bump {P : Params} {c : DB} {b : Block} {avgs : TMap} {s s' : DB}
    (hs : blockTx P c b avgs s = .ok () s') :
    (∀ r ∈ s.syncVersions, r.1 ≠ b.height) ∧
    s'.syncVersions = s.syncVersions ++ [(b.height, P.syncVersion)] ∧ s'.synced = some b.height := by
  unfold blockTx at hs
  rw [← M.bind_assoc] at hs
  obtain ⟨_, s2, h2, hs⟩ := M.bind_ok hs
  obtain ⟨hg, rfl⟩ := M.guarded_ok hs
  rw [← (blockBody_s2 c b avgs).sv_kept h2]
  have hno : ¬ s2.syncVersions.any (·.1 == b.height) = true := fun hany => by rw [if_pos hany] at hg; cases hg
  exact ⟨not_any_key hno, rfl, rfl⟩

theorem blockTx_sv {P : Params} {c : DB} {b : Block} {avgs : TMap} {s s' : DB}
    (hs : blockTx P c b avgs s = .ok () s')
    (hn : (s.syncVersions.map (·.1)).Nodup) (hnew : ∀ r ∈ s.syncVersions, r.1 ≠ b.height) :
    s'.syncVersions = s.syncVersions ++ [(b.height, P.syncVersion)] ∧ s'.synced = some b.height ∧
    (s'.syncVersions.map (·.1)).Nodup := by
  obtain ⟨_, hsv, hsy⟩ := blockTx_bump hs
  exact ⟨hsv, hsy, by rw [hsv]; exact nodup_keys_snoc hn hnew⟩

/- The committed database (pool reads) is not asked for its version table either. -/

theorem syncBlock_c_blind (P : Params) (c : DB) (r : VRows) (b : Block) (avgs : TMap) :
    syncBlock P { c with syncVersions := r } b avgs = syncBlock P c b avgs := rfl

theorem nullifyBurnLoop_c_blind (P : Params) (c : DB) (r : VRows) (hh : Nat) (ts : Int) (a : Addr) (i j : Nat) (l : List Ticker) :
    nullifyBurnLoop P { c with syncVersions := r } hh ts a i j l = nullifyBurnLoop P c hh ts a i j l := by
  induction l generalizing i j with
  | nil => rfl
  | cons t rest ih =>
    unfold nullifyBurnLoop
    simp only [ih]
    rfl

theorem burnZeroing_c_blind (P : Params) (c : DB) (r : VRows) (b : Block) :
    burnZeroing P { c with syncVersions := r } b = burnZeroing P c b := by
  unfold burnZeroing nullifyBurn
  simp only [nullifyBurnLoop_c_blind]

/-- Two databases that differ only in the version table go through the same block transaction
    with the same outcome, provided the height bump meets the same key situation in both. -/
theorem blockTx_sv_blind {P : Params} (c : DB) (rc : VRows) (b : Block) (avgs : TMap) (A : VRows) (s₂ : DB)
    (hg : A.any (·.1 == b.height) = s₂.syncVersions.any (·.1 == b.height)) :
    match blockTx P { c with syncVersions := rc } b avgs { s₂ with syncVersions := A }, blockTx P c b avgs s₂ with
    | .ok _ t₁, .ok _ t₂ => t₁ = { t₂ with syncVersions := A ++ [(b.height, P.syncVersion)] }
    | .fail e _, .fail e' _ => e = e'
    | _, _ => False := by
  unfold blockTx
  rw [burnZeroing_c_blind, syncBlock_c_blind, ← M.bind_assoc]
  -- all but the bump is blind to the version table; the bump is looked at by hand
  have h := (blockBody_s2 (P := P) (A := A) c b avgs).run _ s₂ ⟨rfl, rfl⟩
  generalize ({ s₂ with syncVersions := A } : DB) = s₁ at h ⊢
  rw [M.bind_run _ _ s₁, M.bind_run _ _ s₂]
  generalize (burnZeroing P c b >>= fun _ => syncBlock P c b avgs) s₁ = r₁ at h ⊢
  generalize (burnZeroing P c b >>= fun _ => syncBlock P c b avgs) s₂ = r₂ at h ⊢
  apply h.cases
  · intro _ w₁ w₂ ⟨hw, hwB⟩
    subst hw
    simp only [markSynced, M.guarded, hwB, hg]
    cases s₂.syncVersions.any (·.1 == b.height) with
    | true => rfl
    | false => rfl
  · intro _ _ _ _
    rfl

/-- `blockTx_sv_blind` at the level of `applyBlock`, its three-way `match` spelt out as a conjunction -/
theorem applyBlock_sv_blind_of {P : Params} (n₁ n₂ : Node) (b : Block) (A : VRows)
    (hdb : n₁.db = { n₂.db with syncVersions := A }) (hmem : n₁.mem = n₂.mem)
    (hg : A.any (·.1 == b.height) = n₂.db.syncVersions.any (·.1 == b.height))
    (hav : ∀ c, blockTx P c b (pricingAvgs P n₁ b) = blockTx P c b (pricingAvgs P n₂ b)) :
    (∃ A', (applyBlock P n₁ b).1.db = { (applyBlock P n₂ b).1.db with syncVersions := A' }) ∧
    (applyBlock P n₁ b).1.mem = (applyBlock P n₂ b).1.mem ∧ (applyBlock P n₁ b).2 = (applyBlock P n₂ b).2 := by
  have key := blockTx_sv_blind (P := P) { n₂.db with avgTouched := false } A b (pricingAvgs P n₂ b) A
    { n₂.db with avgTouched := false } hg
  have e : ({ n₁.db with avgTouched := false } : DB) = { ({ n₂.db with avgTouched := false } : DB) with syncVersions := A } := by
    rw [hdb]
  rw [← hav, ← e] at key
  rw [applyBlock_eq P n₁, applyBlock_eq P n₂]
  generalize blockTx P { n₁.db with avgTouched := false } b _ _ = r₁ at key ⊢
  generalize blockTx P { n₂.db with avgTouched := false } b _ _ = r₂ at key ⊢
  cases r₁ with
  | ok u t₁ =>
    cases r₂ with
    | ok u' t₂ => simp only at key; subst key; exact ⟨⟨_, rfl⟩, rfl, rfl⟩
    | fail e' t₂ => exact key.elim
  | fail e t₁ =>
    cases r₂ with
    | ok u' t₂ => exact key.elim
    | fail e' t₂ => simp only at key; subst key; exact ⟨⟨A, hdb⟩, hmem, rfl⟩

theorem applyBlock_sv_blind {P : Params} (n₁ n₂ : Node) (b : Block) (A : VRows)
    (hdb : n₁.db = { n₂.db with syncVersions := A }) (hmem : n₁.mem = n₂.mem)
    (hg : A.any (·.1 == b.height) = n₂.db.syncVersions.any (·.1 == b.height))
    (hlt : b.height < P.act.pip10) :
    (∃ A', (applyBlock P n₁ b).1.db = { (applyBlock P n₂ b).1.db with syncVersions := A' }) ∧
    (applyBlock P n₁ b).1.mem = (applyBlock P n₂ b).1.mem ∧ (applyBlock P n₁ b).2 = (applyBlock P n₂ b).2 :=
  applyBlock_sv_blind_of n₁ n₂ b A hdb hmem hg (fun c => blockTx_avgs c b _ _ hlt)

end Pegnet

import Pegnet.JsonEnc
import Proofs.JsonKeys
import Proofs.Validate
import Std.Data.String.ToNat
/-
  Round trip: what the encoders write, the decoders read back, level by level up to `decTxs_encTxs`;
  the batch itself is `C20.reencoding_round_trips` (C20: "re-encoding any accepted batch yields an entry
  that decodes to the same transactions").
-/
namespace Pegnet

theorem fieldIs_kf (name k : String) (v : J) : fieldIs name (kf k v) = (foldKey k == name) := rfl

theorem lookupField_kf (k : String) (v : J) (fs : List Field) (name : String) :
    lookupField (kf k v :: fs) name = (lookupField fs name).or (if foldKey k = name then some v else none) := by
  rw [lookupField_cons, fieldIs_kf]
  simp only [beq_iff_eq]
  rfl

theorem lookup1 (k1 name : String) (v1 : J) :
    lookupField [kf k1 v1] name = if (foldKey k1 == name) = true then some v1 else none := by
  rw [lookupField_cons, lookupField_nil, Option.none_or]
  rfl

theorem len_quoted (s : String) : ("\"" ++ s ++ "\"" : String).utf8ByteSize = s.utf8ByteSize + 2 := by
  rw [String.utf8ByteSize_append, String.utf8ByteSize_append]
  have : ("\"" : String).utf8ByteSize = 1 := by decide
  omega

theorem w_kf (k : String) (v : J) : Field.w (kf k v) = k.utf8ByteSize + 4 + J.len v := by
  simp only [Field.w, kf, len_quoted]
  omega

theorem obj_two {k₁ k₂ : String} (h₁ : foldKey k₁ = k₁) (h₂ : foldKey k₂ = k₂) (hne : k₁ ≠ k₂) (v₁ v₂ : J) :
    lookupField [kf k₁ v₁, kf k₂ v₂] k₁ = some v₁ ∧ lookupField [kf k₁ v₁, kf k₂ v₂] k₂ = some v₂ ∧
    (∀ n, n ≠ k₁ → n ≠ k₂ → lookupField [kf k₁ v₁, kf k₂ v₂] n = none) ∧
    J.len (.obj [kf k₁ v₁, kf k₂ v₂]) = k₁.utf8ByteSize + k₂.utf8ByteSize + J.len v₁ + J.len v₂ + 9 := by
  refine ⟨?_, ?_, fun n n₁ n₂ => ?_, ?_⟩
  · simp only [lookupField_kf, lookupField_nil, h₁, h₂, if_neg hne.symm, if_true, Option.or_none, Option.none_or]
  · simp only [lookupField_kf, lookupField_nil, h₂, if_true, Option.none_or, Option.some_or]
  · simp only [lookupField_kf, lookupField_nil, h₁, h₂, if_neg n₁.symm, if_neg n₂.symm, Option.or_none]
  · simp only [len_obj_cons, List.map, List.sum_cons, List.sum_nil, w_kf]
    omega

theorem len_obj1 (k1 : String) (v1 : J) :
    J.len (.obj [kf k1 v1]) = 2 + ((("\"" ++ k1 ++ "\"" : String).utf8ByteSize + 1 + J.len v1) + 0) + 0 := by
  simp [J.len, J.lenFields, kf]

theorem decUint_encNat (n : Nat) (h : n ≤ maxUint64) : decUint (encNat n) = some n := by
  unfold decUint encNat
  have hd : (Nat.repr n).toList.all Char.isDigit = true := by
    rw [Nat.toList_repr]
    apply List.all_eq_true.2
    intro c hc
    exact Nat.isDigit_of_mem_toDigits (by omega) (by omega) hc
  have hne : (Nat.repr n).isEmpty = false := String.isEmpty_eq_false_iff.2 Nat.repr_ne_empty
  simp only [hd, hne, Bool.not_false, Bool.and_self, if_true, Nat.toNat?_repr, h]

theorem name_ne_empty {P : Params} (ok : TickersOK P) {t : Ticker} (hv : validTicker P t = true) :
    tickerName P t ≠ "" := by
  intro e
  have := ok.size t hv
  rw [e] at this
  simp at this

theorem valid_pos {P : Params} {t : Ticker} (hv : validTicker P t = true) : t ≠ 0 :=
  Nat.pos_iff_ne_zero.1 (validTicker_iff.1 hv).1

theorem tickerOfBytes_name {P : Params} (ok : TickersOK P) {t : Ticker} (hv : validTicker P t = true) :
    tickerOfBytes P (tickerName P t) = some t := by
  have hh : ((tickerName P t).toList.head? == some '"') = false := by simpa using ok.head t hv
  have hs := ok.size t hv
  simp only [tickerOfBytes, Option.ite_none_left_eq_some, hh, Bool.false_eq_true, if_false,
    ok.back t hv, String.isEmpty_iff]
  exact ⟨name_ne_empty ok hv, by omega, valid_pos hv, trivial⟩

theorem dropWhile_quote_self {l : List Char} (h : l.head? ≠ some '"') : l.dropWhile (· == '"') = l := by
  cases l with
  | nil => rfl
  | cons c cs => exact List.dropWhile_cons_of_neg (by simpa using h)

theorem trimQuotes_quoted (s : String) (hne : s ≠ "") (hh : s.toList.head? ≠ some '"') (hl : s.toList.getLast? ≠ some '"') :
    trimQuotes ("\"" ++ s ++ "\"") = s := by
  have e : ("\"" ++ s ++ "\"" : String).toList = '"' :: (s.toList ++ ['"']) := by
    rw [String.toList_append, String.toList_append]
    rfl
  have h1 : (s.toList ++ ['"']).head? ≠ some '"' := by
    cases hs : s.toList with
    | nil => exact absurd (String.toList_eq_nil_iff.1 hs) hne
    | cons c cs =>
      rw [hs] at hh
      exact hh
  have h2 : s.toList.reverse.head? ≠ some '"' := by rwa [List.head?_reverse]
  -- the quote in front goes, the rest stands; then the same from the other end
  rw [trimQuotes, e, List.dropWhile_cons_of_pos (p := (· == '"')) (beq_self_eq_true _), dropWhile_quote_self h1, List.reverse_append,
    List.reverse_singleton, List.singleton_append, List.dropWhile_cons_of_pos (p := (· == '"')) (beq_self_eq_true _), dropWhile_quote_self h2,
    List.reverse_reverse, String.ofList_toList]

theorem tickerOfBytes_quoted {P : Params} (ok : TickersOK P) {t : Ticker} (hv : validTicker P t = true) :
    tickerOfBytes P ("\"" ++ tickerName P t ++ "\"") = some t := by
  have hh : (("\"" ++ tickerName P t ++ "\"" : String).toList.head? == some '"') = true := by
    rw [String.toList_append, String.toList_append]
    rfl
  have hs := ok.size t hv
  simp only [tickerOfBytes, Option.ite_none_left_eq_some, hh, if_true,
    trimQuotes_quoted _ (name_ne_empty ok hv) (ok.head t hv) (ok.last t hv), ok.back t hv, String.isEmpty_iff]
  refine ⟨fun e => ?_, by omega, valid_pos hv, trivial⟩
  have := congrArg String.utf8ByteSize e
  rw [len_quoted] at this
  simp at this

theorem decTuple_encTuple (P : Params) (al : Addr → String × String) (tr : Transfer) (h : tr.amount ≤ maxUint64) :
    decTuple P (encTuple al tr) = some tr := by
  obtain ⟨ha, hn, -, hl⟩ := obj_two key_address.fold key_amount.fold (by simp) (encAddr al tr.addr) (encNat tr.amount)
  refine decTuple_eq_some.2 ⟨_, _, _, rfl, ha, hn, rfl, decUint_encNat _ h, ?_⟩
  rw [encTuple, hl, key_address.size, key_amount.size]
  omega

theorem decTuples_map (P : Params) (al : Addr → String × String) (trs : List Transfer)
    (h : ∀ tr ∈ trs, tr.amount ≤ maxUint64) : decTuples P (trs.map (encTuple al)) = some trs := by
  induction trs with
  | nil => rfl
  | cons tr rest ih =>
    simp only [List.map_cons, decTuples]
    rw [decTuple_encTuple P al tr (h tr List.mem_cons_self), ih (fun x hx => h x (List.mem_cons_of_mem _ hx))]

theorem encTicker_eq_some {P : Params} {t : Ticker} {j : J} (h : encTicker P t = some j) :
    validTicker P t = true ∧ j = .str ("\"" ++ tickerName P t ++ "\"") (tickerName P t) none := by
  unfold encTicker at h
  split at h
  · exact ⟨‹_›, (Option.some.inj h).symm⟩
  · cases h

theorem decTyped_encTyped (P : Params) (ok : TickersOK P) (al : Addr → String × String) (a : Addr) (n : Nat) (ty : Ticker)
    (hn : n ≤ maxUint64) (j : J) : encTyped P al a n ty = some j → decTyped P j = some (a, n, ty) := by
  fun_cases encTyped P al a n ty
  case case1 => nofun
  case case2 tj hty =>
    rintro ⟨⟩
    obtain ⟨hv, rfl⟩ := encTicker_eq_some hty
    refine decTyped_eq_some.2 ⟨_, .str ("\"" ++ tickerName P ty ++ "\"") (tickerName P ty) none, encAddr al a, encNat n,
      rfl, ?_, tickerOfBytes_name ok hv, ?_, ?_, rfl, decUint_encNat n hn, hv, ?_⟩
    · simp only [lookupField_kf, lookupField_nil, key_type.fold, if_true, Option.none_or, Option.some_or]
    · simp only [lookupField_kf, lookupField_nil, key_address.fold, key_amount.fold, key_type.fold, String.reduceEq, if_true,
        if_false, Option.or_none, Option.none_or]
    · simp only [lookupField_kf, lookupField_nil, key_amount.fold, key_type.fold, String.reduceEq, if_true, if_false,
        Option.or_none, Option.none_or, Option.some_or]
    · simp only [len_obj_cons, List.map, List.sum_cons, List.sum_nil, w_kf, key_address.size, key_amount.size, key_type.size]
      simp only [J.len, len_quoted]
      omega

theorem expectedTxLen_plain {P : Params} {fs : List Field} {ij kj : J} {t : Tx} {c : Bool} (hc : t.isConversion P = c)
    (hm : lookupField fs "metadata" = none) (hk : lookupField fs (if c then "conversion" else "transfers") = some kj) :
    expectedTxLen P fs ij t = (if c then 24 else 23) + J.len ij + J.len kj := by
  cases c
  · simp only [Bool.false_eq_true, if_false] at hk
    simp only [expectedTxLen, hm, hc, hk, Bool.false_eq_true, if_false, optLen, Nat.zero_add]
  · simp only [if_true] at hk
    simp only [expectedTxLen, hm, hc, hk, if_true, optLen, Nat.zero_add]

theorem decTx_encTx (P : Params) (ok : TickersOK P) (al : Addr → String × String) (t : Tx)
    (hn : t.inAmount ≤ maxUint64) (htr : ∀ tr ∈ t.transfers, tr.amount ≤ maxUint64)
    (hx : (t.transfers ≠ [] ∧ t.conversion = 0) ∨ (t.transfers = [] ∧ t.conversion ≠ 0))
    (j : J) : encTx P al t = some j → decTx P j = some t := by
  -- `opt` is the encoder's optional `transfers` field
  fun_cases encTx P al t
  case case2 ij hty opt hc0 =>
    -- transfers
    obtain ⟨hne, -⟩ := hx.resolve_right fun h => h.2 hc0
    rw [show opt = _ from if_neg (by simpa using hne), List.singleton_append]
    rintro ⟨⟩
    have hic : t.isConversion P = false := by simp [Tx.isConversion, hc0]
    obtain ⟨hi, hk, hno, hl⟩ := obj_two key_input.fold key_transfers.fold (by simp) ij (.arr (t.transfers.map (encTuple al)))
    refine decTx_eq_some.2 ⟨_, ij, rfl, hi, decTyped_encTyped P ok al _ _ _ hn ij hty, ?_, ?_, ?_⟩
    · rw [hk]
      -- stated first: left to unfold `decTransfersField` by itself, `exact` is many times slower
      show decTuples P (t.transfers.map (encTuple al)) = some t.transfers
      exact decTuples_map P al _ htr
    · rw [hno "conversion" (by simp) (by simp), hc0]
      rfl
    · rw [expectedTxLen_plain hic (hno "metadata" (by simp) (by simp)) hk, hl, key_input.size, key_transfers.size]
      simp only [Bool.false_eq_true, if_false]
      omega
  case case4 ij hty opt hcn cj hcj =>
    -- conversion
    obtain ⟨he0, -⟩ := hx.resolve_left fun h => hcn h.2
    rw [show opt = _ from if_pos (by rw [he0]; rfl), List.append_nil, List.singleton_append]
    obtain ⟨hv, rfl⟩ := encTicker_eq_some hcj
    rintro ⟨⟩
    have hic : t.isConversion P = true := by simpa [Tx.isConversion, validTicker, he0] using hv
    obtain ⟨hi, hk, hno, hl⟩ := obj_two key_input.fold key_conversion.fold (by simp) ij
      (.str ("\"" ++ tickerName P t.conversion ++ "\"") (tickerName P t.conversion) none)
    refine decTx_eq_some.2 ⟨_, ij, rfl, hi, decTyped_encTyped P ok al _ _ _ hn ij hty, ?_, ?_, ?_⟩
    · rw [hno "transfers" (by simp) (by simp), he0]
      rfl
    · rw [hk]
      show tickerOfBytes P ("\"" ++ tickerName P t.conversion ++ "\"") = some t.conversion
      exact tickerOfBytes_quoted ok hv
    · rw [expectedTxLen_plain hic (hno "metadata" (by simp) (by simp)) hk, hl, key_input.size, key_conversion.size]
      simp only [if_true]
      omega
  all_goals nofun

/-- amounts as Go holds them (uint64) -/
def Fits (txs : List Tx) : Prop := ∀ t ∈ txs, t.inAmount ≤ maxUint64 ∧ ∀ tr ∈ t.transfers, tr.amount ≤ maxUint64

theorem decTxs_encTxs (P : Params) (ok : TickersOK P) (al : Addr → String × String) (txs : List Tx) (items : List J)
    (hf : Fits txs) (hv : ∀ t ∈ txs, t.valid P = true) : encTxs P al txs = some items → decTxs P items = some txs := by
  fun_induction encTxs P al txs generalizing items
  case case1 =>
    rintro ⟨⟩
    rfl
  case case2 t ts x xs hxs hx ih =>
    rintro ⟨⟩
    have hft := hf t List.mem_cons_self
    rw [decTxs, decTx_encTx P ok al t hft.1 hft.2 (Tx.valid_xor (hv t List.mem_cons_self)) x hx,
      ih xs (fun y hy => hf y (List.mem_cons_of_mem _ hy)) (fun y hy => hv y (List.mem_cons_of_mem _ hy)) hxs]
  case case3 => nofun

end Pegnet

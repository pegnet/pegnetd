import Pegnet.Arith
import Proofs.ListFold
/-
  `ConversionSupplySet.Payouts`: totals, proportionality, dust, and the dust receiver `minKey` (a least key
  of its list under `TxKey.lt`, hence the same for every order of the list).
-/
namespace Pegnet

/-- 2^64, the modulus of Go's `uint64` arithmetic (the model writes the literal) -/
def W : Nat := 18446744073709551616

theorem maxUint64_lt_W : maxUint64 < W := by decide

/-- proportional share without the uint64 truncation -/
def share (c bank total : Nat) : Nat := c * bank / total

theorem share_le_bank {c bank total : Nat} (h : c ≤ total) : share c bank total ≤ bank :=
  Nat.div_le_of_le_mul (Nat.mul_le_mul_right bank h)

theorem payoutBig_eq_share {c bank total : Nat} (h : c ≤ total) (hb : bank < W) :
    payoutBig c bank total = share c bank total := by
  fun_cases payoutBig c bank total
  case case1 hz =>
    unfold share
    rcases hz with rfl | rfl | rfl
    · rw [Nat.zero_mul, Nat.zero_div]
    · rw [Nat.mul_zero, Nat.zero_div]
    · rw [Nat.div_zero]
  case case2 => exact Nat.mod_eq_of_lt (Nat.lt_of_le_of_lt (share_le_bank h) hb)

theorem sum_share_le (l : List Nat) (bank total : Nat) :
    (l.map (fun c => share c bank total)).sum ≤ l.sum * bank / total := by
  induction l with
  | nil => exact Nat.zero_le _
  | cons x xs ih =>
    rw [List.map_cons, List.sum_cons, List.sum_cons, Nat.add_mul]
    exact Nat.le_trans (Nat.add_le_add_left ih _) Nat.div_add_div_le_add_div

theorem mem_le_sum {l : List Nat} {c : Nat} (h : c ∈ l) : c ≤ l.sum := by
  rw [(List.perm_cons_erase h).sum_nat, List.sum_cons]
  exact Nat.le_add_right ..

theorem mem_sumReq_le {l : List (TxKey × Nat)} {p : TxKey × Nat} (h : p ∈ l) : p.2 ≤ sumReq l :=
  mem_le_sum (List.mem_map_of_mem (f := (·.2)) h)

theorem pays_eq_shares (reqs : List (TxKey × Nat)) (bank : Nat) (hb : bank < W) :
    reqs.map (fun r => (r.1, payoutBig r.2 bank (sumReq reqs))) =
    reqs.map (fun r => (r.1, share r.2 bank (sumReq reqs))) :=
  List.map_congr_left fun r hr => by rw [payoutBig_eq_share (mem_sumReq_le hr) hb]

theorem sumReq_shares_le (reqs : List (TxKey × Nat)) (bank : Nat) :
    sumReq (reqs.map (fun r => (r.1, share r.2 bank (sumReq reqs)))) ≤ bank := by
  have e : sumReq (reqs.map (fun r => (r.1, share r.2 bank (sumReq reqs))))
      = ((reqs.map (·.2)).map (fun c => share c bank (sumReq reqs))).sum := by
    unfold sumReq
    rw [List.map_map, List.map_map]
    rfl
  rw [e]
  exact Nat.le_trans (sum_share_le ..) (share_le_bank (Nat.le_refl _))

theorem TxKey.lt_iff (a b : TxKey) : a.lt b = true ↔ Prod.lexLt (a.hash, a.idx) (b.hash, b.idx) :=
  lexLt_test ..

theorem TxKey.lt_irrefl (a : TxKey) : ¬ a.lt a = true :=
  fun h => lexLt_irrefl _ ((TxKey.lt_iff ..).1 h)

theorem TxKey.lt_trans {a b c : TxKey} (h1 : a.lt b = true) (h2 : b.lt c = true) : a.lt c = true :=
  (TxKey.lt_iff ..).2 (lexLt_trans ((TxKey.lt_iff ..).1 h1) ((TxKey.lt_iff ..).1 h2))

theorem TxKey.eq_of_not_lt {a b : TxKey} (h1 : ¬ a.lt b = true) (h2 : ¬ b.lt a = true) : a = b := by
  have e := lexLt_trichotomy (mt (TxKey.lt_iff ..).2 h1) (mt (TxKey.lt_iff ..).2 h2)
  cases a
  cases b
  exact congr (congrArg TxKey.mk (congrArg Prod.snd e)) (congrArg Prod.fst e)

theorem minKey_fold_mem (ks : List TxKey) (k : TxKey) :
    ks.foldl (fun m x => if x.lt m then x else m) k ∈ k :: ks := by
  refine List.foldlRecOn ks _ List.mem_cons_self fun m hm x hx => ?_
  split
  · exact List.mem_cons_of_mem _ hx
  · exact hm

theorem minKey_isSome {ks : List TxKey} (h : ks ≠ []) : ∃ w, minKey ks = some w := by
  cases ks with
  | nil => exact absurd rfl h
  | cons k ks => exact ⟨_, rfl⟩

theorem minKey_fold_least (ks : List TxKey) (k x : TxKey) (hx : ¬ x.lt k = true ∨ x ∈ ks) :
    ¬ x.lt (ks.foldl (fun m x => if x.lt m then x else m) k) = true := by
  induction ks generalizing k with
  | nil => exact hx.elim id (fun h => nomatch h)
  | cons y ys ih =>
    rw [List.foldl_cons]
    refine ih _ ?_
    by_cases hy : y.lt k = true
    · rw [if_pos hy]
      rcases hx with hx | hx
      · exact Or.inl fun h => hx (TxKey.lt_trans h hy)
      · rcases List.mem_cons.1 hx with rfl | hx
        · exact Or.inl (TxKey.lt_irrefl x)
        · exact Or.inr hx
    · rw [if_neg hy]
      rcases hx with hx | hx
      · exact Or.inl hx
      · rcases List.mem_cons.1 hx with rfl | hx
        · exact Or.inl hy
        · exact Or.inr hx

theorem minKey_some {ks : List TxKey} {w : TxKey} (h : minKey ks = some w) :
    w ∈ ks ∧ ∀ x ∈ ks, ¬ x.lt w = true := by
  cases ks with
  | nil => cases h
  | cons k rest =>
    cases h
    refine ⟨minKey_fold_mem rest k, fun x hx => minKey_fold_least rest k x ?_⟩
    rcases List.mem_cons.1 hx with rfl | hx
    · exact Or.inl (TxKey.lt_irrefl x)
    · exact Or.inr hx

theorem minKey_perm {l₁ l₂ : List TxKey} (h : l₁.Perm l₂) : minKey l₁ = minKey l₂ := by
  by_cases hn : l₁ = []
  · subst hn
    rw [← h.nil_eq]
  obtain ⟨w, h1⟩ := minKey_isSome hn
  obtain ⟨w', h2⟩ := minKey_isSome (ks := l₂) fun e => hn (e ▸ h).eq_nil
  obtain ⟨m1, l1⟩ := minKey_some h1
  obtain ⟨m2, l2⟩ := minKey_some h2
  rw [h1, h2, TxKey.eq_of_not_lt (l2 w (h.subset m1)) (l1 w' (h.symm.subset m2))]

theorem maxReq_attained {reqs : List (TxKey × Nat)} (h : reqs ≠ []) :
    ∃ r ∈ reqs, r.2 = maxReq reqs := by
  unfold maxReq
  rw [← List.foldl_map (g := max)]
  exact List.mem_map.1 (List.foldl_max_zero_mem (mt List.map_eq_nil_iff.1 h))

theorem sumReq_cons (p : TxKey × Nat) (l : List (TxKey × Nat)) : sumReq (p :: l) = p.2 + sumReq l :=
  List.sum_cons

theorem sumReq_bump (l : List (TxKey × Nat)) (w : TxKey) (d : Nat) :
    sumReq (l.map (fun p => if p.1 == w then (p.1, p.2 + d) else p)) = sumReq l + d * (l.map (·.1)).count w := by
  induction l with
  | nil => rfl
  | cons x xs ih =>
    rw [List.map_cons, sumReq_cons, ih, List.map_cons, List.count_cons, sumReq_cons, Nat.mul_add]
    by_cases hx : (x.1 == w) = true
    · rw [if_pos hx, if_pos hx, Nat.mul_one]
      dsimp only
      rw [Nat.add_add_add_comm, Nat.add_comm d]
    · rw [if_neg hx, if_neg hx, Nat.mul_zero, Nat.add_zero, Nat.add_assoc]

theorem map_keys {f : TxKey × Nat → TxKey × Nat} (hf : ∀ p, (f p).1 = p.1) (l : List (TxKey × Nat)) :
    (l.map f).map (·.1) = l.map (·.1) := by
  rw [List.map_map]
  exact List.map_congr_left fun p _ => hf p

theorem payouts_fit (bank : Nat) (reqs : List (TxKey × Nat)) (hb : bank ≤ maxUint64)
    (hfit : sumReq reqs < bank) : payouts bank reqs = reqs := by
  have hc : sumReq reqs ≤ maxUint64 ∧ sumReq reqs < bank := ⟨Nat.le_trans (Nat.le_of_lt hfit) hb, hfit⟩
  fun_cases payouts bank reqs
  case case1 he => exact (List.isEmpty_iff.1 he).symm
  case case2 => rfl
  -- the other branches are those of a total at or over the bank
  all_goals exact absurd hc ‹_›

/-- the uint64 arithmetic of the dust is exact when the total paid `s` is at most the bank -/
theorem mod_dust {m bank s : Nat} (hs : s ≤ bank) (hb : bank < m) : (bank + m - s % m) % m = bank - s := by
  rw [Nat.mod_eq_of_lt (Nat.lt_of_le_of_lt hs hb), Nat.sub_add_comm hs,
    Nat.add_mod_right, Nat.mod_eq_of_lt (Nat.lt_of_le_of_lt (Nat.sub_le ..) hb)]

theorem bump_mod {m : Nat} (l : List (TxKey × Nat)) (w : TxKey) (d : Nat) (h : sumReq l + d < m) :
    l.map (fun p => if p.1 == w then (p.1, (p.2 + d) % m) else p) =
    l.map (fun p => if p.1 == w then (p.1, p.2 + d) else p) := by
  refine List.map_congr_left fun p hp => ?_
  rw [Nat.mod_eq_of_lt (Nat.lt_of_le_of_lt (Nat.add_le_add_right (mem_sumReq_le hp) d) h)]

theorem dustReceiver {reqs : List (TxKey × Nat)} (hne : reqs ≠ []) :
    ∃ w, minKey ((reqs.filter (fun r => r.2 == maxReq reqs)).map (·.1)) = some w ∧ w ∈ reqs.map (·.1) := by
  obtain ⟨r, hr, hmax⟩ := maxReq_attained hne
  have hr' : r.1 ∈ (reqs.filter (fun r => r.2 == maxReq reqs)).map (·.1) :=
    List.mem_map_of_mem (List.mem_filter.2 ⟨hr, beq_iff_eq.2 hmax⟩)
  obtain ⟨w, hw⟩ := minKey_isSome (List.ne_nil_of_mem hr')
  obtain ⟨q, hq, hqe⟩ := List.mem_map.1 (minKey_some hw).1
  exact ⟨w, hw, hqe ▸ List.mem_map_of_mem (List.mem_filter.1 hq).1⟩

/-- The shares sum to at most the bank, so the dust is `bank - Σ shares` without wrap-around, and it
    goes to exactly one entry because the keys are distinct. -/
theorem payouts_sum_min (bank : Nat) (reqs : List (TxKey × Nat)) (hb : bank ≤ maxUint64)
    (hn : (reqs.map (·.1)).Nodup) : sumReq (payouts bank reqs) = min (sumReq reqs) bank := by
  have hbW : bank < W := Nat.lt_of_le_of_lt hb maxUint64_lt_W
  have hS := sumReq_shares_le reqs bank
  fun_cases payouts bank reqs
  case case1 he =>
    rw [List.isEmpty_iff.1 he]
    exact (Nat.zero_min bank).symm
  case case2 hc => exact (Nat.min_eq_left (Nat.le_of_lt hc.2)).symm
  case case3 he _ _ _ _ _ hnone =>
    obtain ⟨w, hw, _⟩ := dustReceiver (mt List.isEmpty_iff.2 he)
    rw [hw] at hnone
    cases hnone
  case case4 he _ hc pays totalPaid dust _ _ w hw =>
    obtain ⟨w', hw', hwk⟩ := dustReceiver (mt List.isEmpty_iff.2 he)
    cases hw.symm.trans hw'
    have hfit : bank ≤ sumReq reqs := Nat.not_lt.1 fun h => hc ⟨Nat.le_trans (Nat.le_of_lt h) hb, h⟩
    unfold dust totalPaid pays
    rw [pays_eq_shares reqs bank hbW, mod_dust (m := 18446744073709551616) hS hbW,
      bump_mod (m := 18446744073709551616) _ _ _ (Nat.lt_of_le_of_lt (Nat.le_of_eq (Nat.add_sub_cancel' hS)) hbW),
      sumReq_bump, map_keys (f := fun r => (r.1, share r.2 bank (sumReq reqs))) (fun _ => rfl), hn.count, if_pos hwk,
      Nat.min_eq_right hfit, Nat.mul_one]
    exact Nat.add_sub_cancel' hS

theorem payouts_sum_le (bank : Nat) (reqs : List (TxKey × Nat)) (hb : bank ≤ maxUint64)
    (hn : (reqs.map (·.1)).Nodup) : sumReq (payouts bank reqs) ≤ bank :=
  payouts_sum_min bank reqs hb hn ▸ Nat.min_le_right ..

theorem payouts_sum (bank : Nat) (reqs : List (TxKey × Nat)) (hb : bank ≤ maxUint64)
    (hn : (reqs.map (·.1)).Nodup) (hne : reqs ≠ []) :
    sumReq (payouts bank reqs) = if sumReq reqs < bank then sumReq reqs else bank := by
  rw [payouts_sum_min bank reqs hb hn]
  by_cases h : sumReq reqs < bank
  · rw [if_pos h, Nat.min_eq_left (Nat.le_of_lt h)]
  · rw [if_neg h, Nat.min_eq_right (Nat.not_lt.1 h)]

theorem payouts_keys (bank : Nat) (reqs : List (TxKey × Nat)) :
    (payouts bank reqs).map (·.1) = reqs.map (·.1) := by
  fun_cases payouts bank reqs
  case case1 he => rw [List.isEmpty_iff.1 he]
  case case2 => rfl
  case case3 => exact List.map_map
  case case4 =>
    refine (map_keys (fun p => ?_) _).trans List.map_map
    split
    · rfl
    · rfl
end Pegnet

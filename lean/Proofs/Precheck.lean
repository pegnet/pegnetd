import Proofs.Moves
/-
  C03: the in-memory pre-check of `applyTransactionBatch` is SOUND with respect to the writes of
  `recordBatch`: if the cumulative second pass accepts a batch on the balances the input address
  holds, then `recordBatch` — which re-checks every debit against the database — never meets an
  insufficient balance, whatever a batch whose input address is not the burn address contains
  (several transactions drawing on one balance, credits arriving mid-batch from conversions or from
  outputs back to the sender, PEG requests whose output is deferred). This is the statement behind
  fix eb58d6d.
-/
namespace Pegnet

/-- `hb`: pass 2 books outputs back to the sender even when the sender is the burn address; `recordOutputs`
    does not credit them -/
theorem creditOf_outDelta {P : Params} {h : Nat} {rates avgs : Option TMap} {t : Tx} {c : Ticker → Int}
    (hc : creditOf P h rates avgs t = some c) (hb : t.inAddr ≠ burnAddrAt P h) (x : Ticker) :
    outDelta P h rates avgs t t.inAddr x = c x := by
  revert hc
  unfold outDelta
  fun_cases creditOf P h rates avgs t
  case case1 => nofun
  case case2 hcv out hconv =>
    rintro ⟨⟩
    rw [if_pos hcv, hconv]
    by_cases hpeg : h ≥ P.act.convLimit ∧ t.isPEGRequest = true
    · simp [hpeg]
    · simp [hpeg]
  case case3 hcv =>
    rintro ⟨⟩
    by_cases hpeg : h ≥ P.act.convLimit ∧ t.isPEGRequest = true
    · have htr : t.transfers = [] := Decidable.byContradiction fun hne => by
        rw [(not_conversion_of_transfers (P := P) hne).2] at hpeg
        exact Bool.noConfusion hpeg.2
      simp [hpeg, backTo, htr]
    · rw [if_neg hpeg, if_neg hcv, creditedTo, if_neg hb]

/-- **The pre-check is sound.** If the cumulative pass accepts the transactions `txs` of one input
    address `a` on the balances `a` holds in state `s`, then recording them one after the other
    never meets an insufficient balance: whatever failure `recordBatch` ends in (it fails the block, to be
    retried) is not "insufficient balance" (`NotShort`). -/
theorem recordLoop_never_short (P : Params) (h : Nat) (hash : Hash) (rates avgs : Option TMap) (a : Addr)
    (hb : a ≠ burnAddrAt P h) :
    ∀ (txs : List Tx) (k : Nat) (bal : Ticker → Int) (s : DB),
      (∀ t ∈ txs, t.inAddr = a) → (∀ x, s.bal a x = bal x) → pass2 P h rates avgs bal txs = none →
      Outcome (M.forEach (txs.zipIdx k) (fun p => recordTx P h hash rates avgs p.2 p.1) s) (fun _ _ => True)
  | [], _, _, _, _, _, _ => trivial
  | t :: rest, k, bal, s, hall, hbal, hp => by
    obtain ⟨hfund, c, hc, hrest⟩ := pass2_cons_none hp
    have hta : t.inAddr = a := hall t List.mem_cons_self
    subst hta
    rw [List.zipIdx_cons]
    refine Outcome.bind (m := recordTx P h hash rates avgs k t) (recordTx_exact P h hash rates avgs k t s (by rw [hbal]; exact hfund)) ?_
    intro _ s1 h1
    refine recordLoop_never_short P h hash rates avgs _ hb rest (k + 1) _ s1
      (fun t' ht' => hall t' (List.mem_cons_of_mem _ ht')) (fun x => ?_) hrest
    rw [h1, txDelta, creditOf_outDelta hc hb, hbal]
    simp only [true_and]
    rw [← Int.add_sub_assoc, Int.sub_eq_add_neg, Int.add_right_comm, ← Int.sub_eq_add_neg]

theorem recordBatch_never_short (P : Params) (h : Nat) (hash : Hash) (rates avgs : Option TMap) (a : Addr)
    (hb : a ≠ burnAddrAt P h) (txs : List Tx) (s : DB)
    (hall : ∀ t ∈ txs, t.inAddr = a) (hp : pass2 P h rates avgs (s.balances a) txs = none) :
    ∀ e s', recordBatch P h hash rates avgs txs s = .fail e s' → e ≠ .uncaught "insufficient balance" := by
  intro e s' hr
  have := recordLoop_never_short P h hash rates avgs a hb txs 0 (s.balances a) s hall (fun _ => rfl) hp
  unfold recordBatch M.forEachIdx at hr
  rw [hr] at this
  exact this

end Pegnet

import Pegnet.Basic
/-
  The model monad.  `M σ α = σ → Res σ α`, hand-rolled (DESIGN §3.5): a failure carries the
  state reached when it happened, because the Go code swallows errors and keeps the partial
  effects where it zeroes the burn address (both calls of `NullifyBurnAddress`, and inside it
  the result of `SubFromBalance`).
-/
namespace Pegnet

inductive Failure where
  | sqlConstraint (table : String)
  | sqlError (what : String)
  | uncaught (what : String)
  | panic (site : String)
  | grader (what : String)
  | upstream (what : String)
  deriving Repr, DecidableEq

def Failure.kind : Failure → String
  | .sqlConstraint t => "constraint:" ++ t
  | .sqlError w => "sqlerror:" ++ w
  | .uncaught w => "uncaught:" ++ w
  | .panic s => "panic:" ++ s
  | .grader w => "grader:" ++ w
  | .upstream w => "upstream:" ++ w

inductive Res (σ α : Type) where
  | ok (a : α) (s : σ)
  | fail (e : Failure) (s : σ)

def M (σ α : Type) := σ → Res σ α

namespace M
variable {σ α β : Type}

@[inline] def pure (a : α) : M σ α := fun s => .ok a s
@[inline] def bind (m : M σ α) (f : α → M σ β) : M σ β := fun s =>
  match m s with
  | .ok a s' => f a s'
  | .fail e s' => .fail e s'

instance : Monad (M σ) where
  pure := M.pure
  bind := M.bind

@[inline] def get : M σ σ := fun s => .ok s s
@[inline] def set (s : σ) : M σ Unit := fun _ => .ok () s
@[inline] def modify (f : σ → σ) : M σ Unit := fun s => .ok () (f s)
@[inline] def throw (e : Failure) : M σ α := fun s => .fail e s

/-- a primitive table operation: fail with `g s` (state unchanged) or apply the update `u` -/
@[inline] def guarded (g : σ → Option Failure) (u : σ → σ) : M σ Unit := fun s =>
  match g s with
  | some e => .fail e s
  | none => .ok () (u s)

/-- run `m`; if it fails keep the state it reached and report `false` (a swallowed error). -/
@[inline] def swallow (m : M σ Unit) : M σ Bool := fun s =>
  match m s with
  | .ok _ s' => .ok true s'
  | .fail _ s' => .ok false s'

def forEach : List α → (α → M σ Unit) → M σ Unit
  | [], _ => M.pure ()
  | x :: xs, f => M.bind (f x) (fun _ => forEach xs f)

/-- left fold with an accumulator -/
def foldM {β : Type} (f : β → α → M σ β) : β → List α → M σ β
  | b, [] => M.pure b
  | b, x :: xs => M.bind (f b x) (fun b' => foldM f b' xs)

/-- indexed loop -/
def forEachIdx (l : List α) (f : Nat → α → M σ Unit) : M σ Unit :=
  forEach (l.zipIdx) (fun p => f p.2 p.1)

end M

@[simp] theorem M.pure_run {σ α} (a : α) (s : σ) : (Pure.pure a : M σ α) s = .ok a s := rfl
@[simp] theorem M.pure_run' {σ α} (a : α) (s : σ) : (M.pure a : M σ α) s = .ok a s := rfl
@[simp] theorem M.get_run {σ} (s : σ) : (M.get : M σ σ) s = .ok s s := rfl
@[simp] theorem M.set_run {σ} (s t : σ) : (M.set t : M σ Unit) s = .ok () t := rfl
@[simp] theorem M.modify_run {σ} (f : σ → σ) (s : σ) : (M.modify f : M σ Unit) s = .ok () (f s) := rfl
@[simp] theorem M.throw_run {σ α} (e : Failure) (s : σ) : (M.throw e : M σ α) s = .fail e s := rfl
theorem M.bind_run {σ α β} (m : M σ α) (f : α → M σ β) (s : σ) :
    (m >>= f) s = match m s with | .ok a s' => f a s' | .fail e s' => .fail e s' := rfl

theorem M.get_bind {σ β} (f : σ → M σ β) (s : σ) : (M.get >>= f) s = f s s := rfl

theorem M.bind_assoc {σ α β γ} (m : M σ α) (f : α → M σ β) (g : β → M σ γ) :
    ((m >>= f) >>= g) = (m >>= fun a => f a >>= g) := by
  funext s
  simp only [M.bind_run]
  cases m s <;> rfl

theorem M.pure_ok {σ α} {a b : α} {s s' : σ} (h : (Pure.pure a : M σ α) s = .ok b s') : b = a ∧ s' = s := by
  injection h with h1 h2
  exact ⟨h1.symm, h2.symm⟩

theorem M.bind_ok {σ α β} {m : M σ α} {f : α → M σ β} {s s' : σ} {b : β}
    (h : (m >>= f) s = .ok b s') : ∃ a s1, m s = .ok a s1 ∧ f a s1 = .ok b s' := by
  rw [M.bind_run] at h
  cases hm : m s with
  | ok a s1 => rw [hm] at h; exact ⟨a, s1, rfl, h⟩
  | fail e s1 => rw [hm] at h; cases h

theorem M.bind_fail {σ α β} {m : M σ α} {f : α → M σ β} {s s' : σ} {e : Failure}
    (h : (m >>= f) s = .fail e s') : m s = .fail e s' ∨ ∃ a s1, m s = .ok a s1 ∧ f a s1 = .fail e s' := by
  rw [M.bind_run] at h
  cases hm : m s with
  | ok a s1 =>
    rw [hm] at h
    exact .inr ⟨a, s1, rfl, h⟩
  | fail e1 s1 =>
    rw [hm] at h
    injection h with h1 h2
    exact .inl (by rw [h1, h2])

theorem M.guarded_ok {σ} {g : σ → Option Failure} {u : σ → σ} {s s' : σ} {a : Unit}
    (h : M.guarded g u s = .ok a s') : g s = none ∧ s' = u s := by
  unfold M.guarded at h
  cases hg : g s with
  | some e => rw [hg] at h; cases h
  | none => rw [hg] at h; injection h with _ hs; exact ⟨rfl, hs.symm⟩

theorem M.guarded_fail {σ} {g : σ → Option Failure} {u : σ → σ} {s s' : σ} {e : Failure}
    (h : M.guarded g u s = .fail e s') : g s = some e ∧ s' = s := by
  unfold M.guarded at h
  cases hg : g s with
  | some e' =>
    rw [hg] at h
    injection h with h1 h2
    exact ⟨congrArg some h1, h2.symm⟩
  | none =>
    rw [hg] at h
    cases h

theorem M.forEach_fail {σ α} {l : List α} {f : α → M σ Unit} {s s' : σ} {e : Failure}
    (h : M.forEach l f s = .fail e s') : ∃ a ∈ l, ∃ s0, f a s0 = .fail e s' := by
  induction l generalizing s with
  | nil => cases h
  | cons x xs ih =>
    rcases M.bind_fail (show (f x >>= fun _ => M.forEach xs f) s = .fail e s' from h) with hx | ⟨_, _, _, h'⟩
    · exact ⟨x, List.mem_cons_self, s, hx⟩
    · obtain ⟨a, ha, s0, h0⟩ := ih h'
      exact ⟨a, List.mem_cons_of_mem _ ha, s0, h0⟩

end Pegnet
